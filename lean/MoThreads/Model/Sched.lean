/-
  Generic labelled transition systems shared by all models.

  A model is: an initial-state predicate, environment moves (`call`: start an API call on an
  idle thread, `env`: fire a timeout, advance the clock, ...) and system moves
  `step : σ → Nat → Option (σ × L)` (thread `t` performs its next visible operation;
  `none` = blocked or nothing to do).  No imports: the driver links against this.
-/
namespace MoThreads

structure Sys (σ L : Type) where
  init : σ → Prop
  env  : σ → σ → Prop                      -- environment moves (calls, timeouts firing, clock)
  step : σ → Nat → Option (σ × L)          -- the code

namespace Sys
variable {σ L : Type} (S : Sys σ L)

/-- States reachable by any interleaving of environment and system moves. -/
inductive Reach : σ → Prop
  | init {s} : S.init s → Reach s
  | env  {s s'} : Reach s → S.env s s' → Reach s'
  | step {s s' t l} : Reach s → S.step s t = some (s', l) → Reach s'

/-- Nobody can move: every thread is idle or blocked. -/
def Quiescent (s : σ) : Prop := ∀ t, S.step s t = none

/-- System-only runs (no environment move): the reflexive-transitive closure of `step`. -/
inductive Run : σ → List (Nat × L) → σ → Prop
  | nil {s} : Run s [] s
  | cons {s s' s'' t l tr} : S.step s t = some (s', l) → Run s' tr s'' → Run s ((t, l) :: tr) s''

theorem Run.preserves {P : σ → Prop} (hP : ∀ s s' t l, P s → S.step s t = some (s', l) → P s')
    {s s' : σ} {tr} (r : S.Run s tr s') (h : P s) : P s' := by
  induction r with
  | nil => exact h
  | cons hs _ ih => exact ih (hP _ _ _ _ h hs)

theorem Reach.run {s s' : σ} {tr} (h : S.Reach s) (r : S.Run s tr s') : S.Reach s' :=
  Run.preserves S (fun _ _ _ _ h hs => h.step hs) r h

/-- `Reach` along the total versions of `step` and of an environment move that the non-vacuity examples fold over. -/
theorem Reach.stepD {s : σ} (h : S.Reach s) (t : Nat) : S.Reach (((S.step s t).map (·.1)).getD s) := by
  cases hs : S.step s t with
  | none => exact h
  | some p => exact h.step hs

theorem Reach.envD {s : σ} (h : S.Reach s) {o : Option σ} (he : ∀ s', o = some s' → S.env s s') : S.Reach (o.getD s) := by
  cases o with
  | none => exact h
  | some s' => exact h.env (he s' rfl)

/-- what every application of `f` preserves, a fold over `f` preserves (with `P := S.Reach`, `Below N`: the demo schedules) -/
theorem foldl_preserves {α : Type} {P : σ → Prop} {f : σ → α → σ} (hf : ∀ s a, P s → P (f s a)) {s : σ} (h : P s)
    (as : List α) : P (as.foldl f s) := by
  induction as generalizing s with
  | nil => exact h
  | cons a as ih => exact ih (hf s a h)

theorem Reach.invariant' {P : σ → Prop}
    (hinit : ∀ s, S.init s → P s)
    (henv : ∀ s s', S.Reach s → P s → S.env s s' → P s')
    (hstep : ∀ s s' t l, S.Reach s → P s → S.step s t = some (s', l) → P s')
    {s : σ} (h : S.Reach s) : P s := by
  induction h with
  | init h => exact hinit _ h
  | env hr he ih => exact henv _ _ hr ih he
  | step hr hs ih => exact hstep _ _ _ _ hr ih hs

theorem Reach.invariant {P : σ → Prop}
    (hinit : ∀ s, S.init s → P s)
    (henv : ∀ s s', P s → S.env s s' → P s')
    (hstep : ∀ s s' t l, P s → S.step s t = some (s', l) → P s')
    {s : σ} (h : S.Reach s) : P s :=
  Reach.invariant' S hinit (fun s s' _ => henv s s') (fun s s' t l _ => hstep s s' t l) h

theorem Run.length_le_rank_inv (rank : σ → Nat) (P : σ → Prop)
    (hP : ∀ s s' t l, P s → S.step s t = some (s', l) → P s')
    (hdec : ∀ s s' t l, P s → S.step s t = some (s', l) → rank s' < rank s)
    {s s' : σ} {tr} (r : S.Run s tr s') (h : P s) : tr.length + rank s' ≤ rank s := by
  induction r with
  | nil => simp
  | cons hs _ ih =>
    have := hdec _ _ _ _ h hs
    have := ih (hP _ _ _ _ h hs)
    simp only [List.length_cons]; omega

theorem Run.length_le_rank (rank : σ → Nat)
    (hdec : ∀ s s' t l, S.step s t = some (s', l) → rank s' < rank s)
    {s s' : σ} {tr} (r : S.Run s tr s') : tr.length + rank s' ≤ rank s :=
  Run.length_le_rank_inv S rank (fun _ => True) (fun _ _ _ _ _ _ => trivial) (fun s s' t l _ => hdec s s' t l) r trivial

end Sys

/-- Finite sums over thread ids `0 … n-1`, used by ranking functions. -/
def sumTo (n : Nat) (f : Nat → Nat) : Nat :=
  match n with
  | 0 => 0
  | n + 1 => sumTo n f + f n

theorem sumTo_congr {n : Nat} {f g : Nat → Nat} (h : ∀ i, i < n → f i = g i) : sumTo n f = sumTo n g := by
  induction n with
  | zero => rfl
  | succ n ih =>
    simp only [sumTo]
    rw [ih (fun i hi => h i (by omega)), h n (by omega)]

theorem sumTo_update {n : Nat} {f g : Nat → Nat} {t : Nat} (ht : t < n)
    (h : ∀ i, i ≠ t → f i = g i) : sumTo n g + f t = sumTo n f + g t := by
  induction n with
  | zero => omega
  | succ n ih =>
    simp only [sumTo]
    by_cases htn : t = n
    · subst htn
      have : sumTo t f = sumTo t g := sumTo_congr (fun i hi => h i (by omega))
      omega
    · have := ih (by omega)
      have := h n (by omega)
      omega

theorem sumTo_le_add {n c : Nat} {f g : Nat → Nat} (h : ∀ u, u < n → g u ≤ f u + c) : sumTo n g ≤ sumTo n f + n * c := by
  induction n with
  | zero => simp [sumTo]
  | succ n ih =>
    have := ih (fun u hu => h u (by omega))
    have := h n (by omega)
    simp only [sumTo, Nat.succ_mul]; omega

theorem sumTo_point {n t c : Nat} {f g : Nat → Nat} (ht : t < n) (h : ∀ u, u < n → u ≠ t → g u ≤ f u + c) :
    sumTo n g + f t + c ≤ sumTo n f + g t + n * c := by
  induction n with
  | zero => omega
  | succ n ih =>
    simp only [sumTo, Nat.succ_mul]
    by_cases htn : t = n
    · subst htn
      have := sumTo_le_add (n := t) (fun u hu => h u (by omega) (by omega))
      omega
    · have := ih (by omega) (fun u hu hne => h u (by omega) hne)
      have := h n (by omega) (by omega)
      omega

namespace Sys
variable {σ L : Type} (S : Sys σ L)

/-- Ranking by per-thread potentials `φ s t` plus a shared part `g s`, from a state in which the threads `≥ N` have
potential 0 (a step does not leave potential 0: second part of `hφ`). -/
theorem Run.length_le_sumTo (φ : σ → Nat → Nat) (g : σ → Nat) (P : σ → Prop)
    (hP : ∀ s s' t l, P s → S.step s t = some (s', l) → P s')
    (hφ : ∀ s s' t l, P s → S.step s t = some (s', l) →
      φ s' t + g s' < φ s t + g s ∧ (φ s t = 0 → φ s' t = 0) ∧ ∀ u, u ≠ t → φ s' u = φ s u)
    {N : Nat} {s s' : σ} {tr} (r : S.Run s tr s') (h : P s) (hN : ∀ t, N ≤ t → φ s t = 0) :
    tr.length + (sumTo N (φ s') + g s') ≤ sumTo N (φ s) + g s :=
  Run.length_le_rank_inv S (fun s => sumTo N (φ s) + g s) (fun s => P s ∧ ∀ t, N ≤ t → φ s t = 0)
    (fun s s' t l hs hst => ⟨hP s s' t l hs.1 hst, fun u hu => by
      obtain ⟨-, h0, hoth⟩ := hφ s s' t l hs.1 hst
      by_cases hut : u = t
      · subst hut; exact h0 (hs.2 u hu)
      · rw [hoth u hut]; exact hs.2 u hu⟩)
    (fun s s' t l hs hst => by
      obtain ⟨hlt, h0, hoth⟩ := hφ s s' t l hs.1 hst
      show sumTo N (φ s') + g s' < sumTo N (φ s) + g s
      rcases Nat.lt_or_ge t N with ht | ht
      · have := sumTo_update (f := φ s) (g := φ s') ht fun u hu => (hoth u hu).symm
        omega
      · have := hs.2 t ht
        have := sumTo_congr (n := N) (f := φ s') (g := φ s) fun u hu => hoth u (by omega)
        omega)
    r ⟨h, hN⟩

theorem Run.length_le_sumTo' (φ : σ → Nat → Nat) (P : σ → Prop)
    (hP : ∀ s s' t l, P s → S.step s t = some (s', l) → P s')
    (hφ : ∀ s s' t l, P s → S.step s t = some (s', l) → φ s' t < φ s t ∧ ∀ u, u ≠ t → φ s' u = φ s u)
    {N : Nat} {s s' : σ} {tr} (r : S.Run s tr s') (h : P s) (hN : ∀ t, N ≤ t → φ s t = 0) :
    tr.length + sumTo N (φ s') ≤ sumTo N (φ s) :=
  Run.length_le_sumTo S φ (fun _ => 0) P hP (fun s s' t l hs hst =>
    have ⟨hlt, hoth⟩ := hφ s s' t l hs hst
    ⟨by omega, fun h0 => by omega, hoth⟩) r h hN

end Sys

end MoThreads
