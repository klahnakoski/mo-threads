/-
  Inductive invariant of M7 (Model/TQWorker.lean), and what every step leaves alone.  The worker is alone, so every step
  moves its pc: `Inv.at_pc` restates the invariant at the pc the step starts from, the classifications then compute, and
  `{ h with … }` names the fields whose computed statement differs between the old pc and the new one.
-/
import MoThreads.Model.TQWorker
namespace MoThreads.TQWorker

/-- a value popped from the own queue but not yet appended to the buffer -/
def WPC.pend : WPC → List Nat
  | .afterPopE (.val v) => [v]
  | .dispatch (some (.val v)) => [v]
  | _ => []

/-- the worker holds the stop marker it has just popped -/
def WPC.holdsMarker : WPC → Bool
  | .afterPopE .marker | .dispatch (some .marker) | .flushM | .requeue => true
  | _ => false

/-- the worker is past the stop handling (leaving) -/
def WPC.leaving : WPC → Bool
  | .setStop | .final | .finalFlush | .sendMarker | .done | .crashed => true
  | _ => false

/-- the last flush has succeeded; `ext`: please_stop was triggered from outside (then `final` is reached with a full buffer) -/
def WPC.flushed (ext : Bool) : WPC → Bool
  | .final => !ext
  | .setStop | .sendMarker | .done => true
  | _ => false

def WPC.stopping : WPC → Bool
  | .final | .sendMarker | .done => true
  | _ => false

/-- reached only after an external abort -/
def WPC.aborted : WPC → Bool
  | .finalFlush | .crashed => true
  | _ => false

theorem vals_append (a b : List Item) : vals (a ++ b) = vals a ++ vals b := by
  induction a with
  | nil => rfl
  | cons x r ih => cases x <;> simp [vals, ih]

theorem flat_append (a : List (List Nat)) (b : List Nat) : flat (a ++ [b]) = flat a ++ b := by
  induction a with
  | nil => simp [flat]
  | cons x r ih => simp only [flat, List.cons_append, List.foldr_cons] at ih ⊢; rw [ih]; simp [List.append_assoc]

structure Inv (s : State) : Prop where
  conserved : flat s.sink ++ s.buffer ++ s.pc.pend ++ vals s.q = s.added
  oneMarker : s.markers = if s.pc = .done then 1 else 0
  noLostStop : s.stopReq = true → (Item.marker ∈ s.q ∨ s.pc.holdsMarker = true ∨ s.pc.leaving = true)
  flushedEmpty : s.pc.flushed s.extStop = true → s.buffer = []
  ownPstopStopping : s.extStop = false → s.pstop = true → s.pc.stopping = true
  abortedExt : s.extStop = false → s.pc.aborted = false

variable {s s' : State} {l : Label}

theorem Inv.at_pc {p : WPC} (h : Inv s) (hp : s.pc = p) : Inv { s with pc := p } := by subst hp; exact h

theorem inv_step (h : Inv s) (hs : step s = some (s', l)) : Inv s' := by
  unfold step at hs
  have h := h.at_pc rfl
  generalize s.pc = p at h hs
  cases p <;> simp only at hs
  case init0 | newT => cases hs; exact { h with }
  case loop =>
    cases hs
    split
    next hps =>
      exact { h with noLostStop := fun _ => .inr (.inr rfl), ownPstopStopping := fun _ _ => rfl
                     flushedEmpty := fun he => nomatch h.ownPstopStopping (by simpa [WPC.flushed] using he) hps }
    · split <;> exact { h with }
  case popE =>
    split at hs
    · cases hs
    next x r hq =>
      cases hs
      have hD := h.conserved; have hS := h.noLostStop
      simp only [hq] at hD hS
      cases x with
      | val v => exact { h with conserved := by simpa [vals, WPC.pend] using hD, noLostStop := fun hr => (hS hr).imp_left (by simp) }
      | marker => exact { h with conserved := by simpa [vals, WPC.pend] using hD, noLostStop := fun _ => .inr (.inl rfl) }
  case afterPopE x => cases hs; cases x <;> exact { h with }
  case popT =>
    split at hs
    next x r hq =>
      cases hs
      have hD := h.conserved; have hS := h.noLostStop
      simp only [hq] at hD hS
      cases x with
      | val v => exact { h with conserved := by simpa [vals, WPC.pend] using hD, noLostStop := fun hr => (hS hr).imp_left (by simp) }
      | marker => exact { h with conserved := by simpa [vals, WPC.pend] using hD, noLostStop := fun _ => .inr (.inl rfl) }
    · split at hs <;> cases hs
      exact { h with }
  case dispatch x =>
    split at hs <;> cases hs
    · exact { h with }
    · exact { h with conserved := by simpa [WPC.pend] using h.conserved, flushedEmpty := nofun }
    · exact { h with }
  case flushM =>
    split at hs <;> cases hs
    · exact { h with conserved := by simpa [WPC.pend, flat_append] using h.conserved, flushedEmpty := fun _ => rfl
                     noLostStop := fun _ => .inr (.inr rfl) }
    · exact { h with }
  case requeue => cases hs; exact { h with noLostStop := fun _ => .inl (.head _) }
  case setStop => cases hs; exact { h with ownPstopStopping := fun _ _ => rfl, flushedEmpty := fun _ => h.flushedEmpty rfl }
  case second =>
    cases hs
    split
    · split <;> exact { h with }
    · exact { h with }
  case flush2 =>
    split at hs <;> cases hs
    · exact { h with conserved := by simpa [WPC.pend, flat_append] using h.conserved, flushedEmpty := nofun }
    · exact { h with }
  case final =>
    cases hs
    split
    next hb => exact { h with flushedEmpty := fun _ => hb }
    next hb =>
      exact { h with flushedEmpty := nofun, ownPstopStopping := fun he _ => absurd (h.flushedEmpty (congrArg (!·) he)) hb
                     abortedExt := fun he => absurd (h.flushedEmpty (congrArg (!·) he)) hb }
  case finalFlush =>
    split at hs <;> cases hs
    · exact { h with conserved := by simpa [WPC.pend, flat_append] using h.conserved, flushedEmpty := fun _ => rfl
                     ownPstopStopping := fun _ _ => rfl, abortedExt := fun _ => rfl }
    · exact { h with }
  case sendMarker => cases hs; exact { h with oneMarker := congrArg (· + 1) h.oneMarker }
  case done | crashed => cases hs

theorem inv_init (b : Nat) (f : List Bool) : Inv (init b f) where
  conserved := rfl
  oneMarker := rfl
  noLostStop := nofun
  flushedEmpty := nofun
  ownPstopStopping _ := nofun
  abortedExt _ := rfl

theorem inv_add (x : Item) (h : Inv s) : Inv (add s x) := by
  cases x with
  | val v =>
    exact { h with
      conserved := by simp only [add, vals_append, vals]; rw [← h.conserved]; simp
      noLostStop := fun hs => (h.noLostStop hs).imp_left (List.mem_append_left _) }
  | marker =>
    exact { h with
      conserved := by simp only [add, vals_append, vals]; simpa using h.conserved
      noLostStop := fun _ => .inl (by simp [add]) }

theorem inv_fireTimer (k : Nat) (h : Inv s) : Inv (fireTimer s k) := { h with }

theorem WPC.flushed_abort {p : WPC} {e : Bool} (h : p.flushed true = true) : p.flushed e = true := by
  cases p with
  | setStop | sendMarker | done => rfl
  | _ => cases h

theorem inv_externalStop (h : Inv s) : Inv (externalStop s) :=
  { h with flushedEmpty := fun hb => h.flushedEmpty (WPC.flushed_abort hb), ownPstopStopping := nofun, abortedExt := nofun }

theorem inv_optTimer (h : Inv s) (ho : optTimer s = some s') : Inv s' := by
  unfold optTimer at ho
  split at ho <;> cases ho
  exact { h with }

theorem step_frame (hs : step s = some (s', l)) :
    s'.stopReq = s.stopReq ∧ s'.extStop = s.extStop ∧ s'.fired = s.fired ∧ s.nextT ≤ s'.nextT := by
  unfold step at hs
  repeat' split at hs
  all_goals cases hs
  all_goals exact ⟨rfl, rfl, rfl, by simp⟩

theorem step_extend {b : List Nat} {ok : Bool} (hs : step s = some (s', .extend b ok)) :
    b = s.buffer ∧ s'.sink = (if ok then s.sink ++ [s.buffer] else s.sink) ∧ s'.buffer = (if ok then [] else s.buffer) := by
  unfold step at hs
  repeat' split at hs
  all_goals cases hs
  all_goals exact ⟨rfl, rfl, rfl⟩

theorem step_none (h : step s = none) :
    s.pc = .done ∨ s.pc = .crashed ∨ (s.q = [] ∧ s.pc.holdsMarker = false ∧ s.pc.leaving = false) := by
  unfold step at h
  repeat' split at h
  all_goals simp_all [WPC.holdsMarker, WPC.leaving]

theorem sys_step {t : Nat} (hs : sys.step s t = some (s', l)) : step s = some (s', l) := by
  change (if t = 0 then step s else none) = _ at hs
  split at hs
  · exact hs
  · cases hs

theorem reach_inv (h : sys.Reach s) : Inv s := by
  refine Sys.Reach.invariant sys (P := Inv) ?_ ?_ ?_ h
  · rintro s ⟨b, f, rfl⟩; exact inv_init b f
  · rintro s s' hi (⟨x, rfl⟩ | ⟨k, rfl⟩ | rfl | ho)
    · exact inv_add x hi
    · exact inv_fireTimer k hi
    · exact inv_externalStop hi
    · exact inv_optTimer hi ho
  · intro s s' t l hi hs; exact inv_step hi (sys_step hs)

end MoThreads.TQWorker
