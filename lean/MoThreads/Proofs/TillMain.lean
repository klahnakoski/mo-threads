/-
  M6 (Till): the invariant of TillInv.lean holds in every reachable state.  One case per pc of the daemon (`inv_stepD`)
  and of a creator (`inv_stepC`); each names the fields of `Inv` whose statement the step changes.
-/
import MoThreads.Proofs.TillInv
namespace MoThreads.Till

section
variable {cpc : Nat → CPC} {t u : Nat} {p p' : CPC} {lk lk' : Option Nat} {ps ps' : Bool} {mk mk' : Nat → Nat}
  {cr cr' rg rg' fi fi' : Nat → Bool} {dl dl' : Nat → Int}

theorem ThreadI.update (h : ∀ u, ThreadI u (cpc u) lk ps mk cr rg fi dl)
    (ho : ∀ u, u ≠ t → ThreadI u (cpc u) lk ps mk cr rg fi dl → ThreadI u (cpc u) lk' ps' mk' cr' rg' fi' dl')
    (ht : ThreadI t p' lk' ps' mk' cr' rg' fi' dl') :
    ∀ u, ThreadI u (if u = t then p' else cpc u) lk' ps' mk' cr' rg' fi' dl' := fun u => by
  by_cases e : u = t
  · rw [if_pos e, e]; exact ht
  · rw [if_neg e]; exact ho u e (h u)

theorem ThreadI.lock (h : ThreadI u p lk ps mk cr rg fi dl) (hl : lk = none) (hu : u ≠ 0 → u ≠ t) :
    ThreadI u p (some t) ps mk cr rg fi dl := by
  subst hl
  exact { h with mutex := fun h0 => ⟨fun hh => (nomatch (h.mutex h0).mp hh), fun e => absurd (Option.some.inj e).symm (hu h0)⟩ }

theorem ThreadI.unlock (h : ThreadI u p lk ps mk cr rg fi dl) (hl : lk = some t) (hu : u ≠ 0 → u ≠ t) :
    ThreadI u p none ps mk cr rg fi dl := by
  subst hl
  exact { h with mutex := fun h0 => ⟨fun hh => absurd (Option.some.inj ((h.mutex h0).mp hh)).symm (hu h0), nofun⟩ }

theorem ThreadI.plain (h : ThreadI t p lk ps mk cr rg fi dl) (ht : t ≠ 0) (hp : p.plain = true) (hp' : p'.plain = true) :
    ThreadI t p' lk ps mk cr rg fi dl := by
  cases p <;> cases hp <;> cases p' <;> cases hp' <;> exact { h with zeroIdle := fun e => absurd e ht }
end

theorem ThreadI.passed_locker {t p lk ps mk cr rg fi dl} (h : ThreadI t p lk ps mk cr rg fi dl) (hp : p.passed = true) :
    lk = some t ∧ t ≠ 0 := by
  have ht : t ≠ 0 := fun e => by
    have := h.zeroIdle e; cases p <;> first | cases hp; done | cases this
  exact ⟨(h.mutex ht).mp (CPC.passed_holds hp), ht⟩

theorem Inv.setC_plain {s : State} (h : Inv s) {t : Nat} {p' : CPC} (ht : t ≠ 0) (hp : (s.cpc t).plain = true)
    (hp' : p'.plain = true) : Inv (s.setC t p') :=
  { h with thr := ThreadI.update h.thr (fun _ _ hu => hu) ((h.thr t).plain ht hp hp') }

theorem Inv.fire {s : State} (h : Inv s) {id : Nat} {b : Bool} (hc : id < s.nextId)
    (hu : ∀ t, (s.cpc t).unregistered ≠ some id) (hb : b = true → s.deadline id ≤ s.now) : Inv (fireId s id b) := by
  unfold fireId; split
  · exact h
  · refine { h with unfiredListed := fun j hr hf => h.unfiredListed j hr (upd_false hf).2, neverEarly := ?neverEarly, fresh := ?fresh,
                    thr := fun t => { h.thr t with
                      unregdUnfired := ?unregdUnfired,
                      noOrphan := fun j h1 h2 h3 h4 => (h.thr t).noOrphan j h1 h2 h3 (upd_false h4).2 } } <;> dsimp only
    case neverEarly =>
      show (s.early || (b && decide (s.now < s.deadline id))) = false
      rw [h.neverEarly, Bool.false_or]; cases b
      · rfl
      · exact decide_eq_false (by have := hb rfl; omega)
    case fresh =>
      intro j hj
      have := h.fresh j hj
      exact ⟨this.1, this.2.1, (if_neg (by omega)).trans this.2.2⟩
    case unregdUnfired t =>
      intro j hj
      have := (h.thr t).unregdUnfired j hj
      exact ⟨this.1, (if_neg fun e : j = id => hu t (e ▸ hj)).trans this.2⟩

theorem Inv.fire_listed {s : State} {p : DPC} (h : Inv { s with dpc := p }) {x : Timer} {b : Bool}
    (hx : Listed s.newTimers s.sorted p.transit x) (hb : b = true → x.1 ≤ s.now) : Inv { fireId s x.2 b with dpc := p } :=
  have hx := h.listedRegd x hx
  fireId_dpc .. ▸ h.fire (h.lt_nextId (.inl hx.2))
    (fun t ht => by have := ((h.thr t).unregdUnfired _ ht).1; rw [hx.2] at this; cases this) (fun e => hx.1 ▸ hb e)

theorem inv_stepD {s s' : State} {l : Label} (h : Inv s) (hs : stepD s = some (s', l)) : Inv s' := by
  cases hp : s.dpc <;> simp only [stepD, hp] at hs <;> have h' := h.at hp
  case start => cases hs; exact { h' with }
  case d0 => cases hs; split <;> exact { h' with }
  case d1 => cases hs; exact { h' with clockLocalNow := fun n hn => (Option.some.inj hn).symm }
  case d2 | d5 | f1 =>
    split at hs <;> cases hs
    rename_i hl
    exact { h' with daemonMutex := ⟨fun _ => rfl, fun _ => rfl⟩, thr := fun t => (h'.thr t).lock hl id }
  case d3 n =>
    cases hs; refine { h' with pingLocalSoon := ?_ } <;> dsimp only
    rintro _ ⟨⟩; have := h.pingSoon; omega
  case d3r | d6r =>
    cases hs
    exact { h' with daemonMutex := ⟨nofun, nofun⟩, thr := fun t => (h'.thr t).unlock (h'.daemonMutex.mp rfl) id }
  case d4 n later =>
    split at hs <;> cases hs
    · refine { h' with pingLocalSoon := ?_, clockLocalNow := nofun } <;> dsimp only
      rintro _ ⟨⟩
      obtain rfl : n = s.now := h'.clockLocalNow n rfl
      have := h.pingLocalSoon _ (by rw [hp]; rfl); rw [minI_eq_min]; omega
    · exact { h' with pingLocalSoon := nofun }
  case asleep w => split at hs <;> cases hs; exact { h' with pingLocalSoon := nofun }
  case d6 n =>
    cases hs
    obtain rfl : n = s.now := h'.clockLocalNow n rfl
    have := h.intervalPos
    refine { h' with scanPast := Int.le_refl _, scanRecent := fun _ => ?_, scanSpacing := ⟨h.scanPast, h'.scanRecent rfl⟩,
                     pingSoon := Int.le_refl _, pingLocalSoon := nofun, lastScanNow := fun _ => rfl,
                     listedRegd := fun x hx => h'.listedRegd x (Listed.swap.mp hx), newSinceScan := nofun,
                     transitAfterPrev := fun _ x hx => .inr (h.newSinceScan x hx), transitDue := nofun,
                     unfiredListed := fun id hr hf => Listed.swap.mpr (h'.unfiredListed id hr hf), newEmptied := nofun }
    dsimp only; omega
  case d7 n new =>
    cases hs
    obtain ⟨hperm, hdue, hrest⟩ := scan_mem n (s.sorted ++ new)
    generalize dueOf n (sortT (s.sorted ++ new)) = due at *
    -- `rest` is not named again below: abbreviating it keeps the terms of this case small, which is cheaper to check
    generalize restOf n (sortT (s.sorted ++ new)) = rest at *
    obtain rfl : n = s.now := h'.clockLocalNow n rfl
    -- a timer that is due comes from `sorted` (it was not due at the previous scan) or was swapped in at this one
    have hTr : ∀ x, x ∈ due → s.prevScan < x.1 ∨ s.prevScan ≤ s.regAt x.2 := fun x hx =>
      (List.mem_append.mp (hperm.mem_iff.mp (List.mem_append_left _ hx))).elim (fun m => .inl (h'.sortedLater x m)) (h'.transitAfterPrev rfl x)
    split <;> rename_i hre <;>
      exact { h' with clockLocalNow := nofun, listedRegd := fun x hx => h'.listedRegd x ((Listed.scan hperm).mp hx),
                      sortedLater := fun x hx => h'.lastScanNow rfl ▸ hrest x hx, transitAfterPrev := fun _ => hTr, transitDue := fun _ => hdue,
                      unfiredListed := fun id hr hf => (Listed.scan hperm).mpr (h'.unfiredListed id hr hf), sortedEmptied := nofun,
                      sortedNonempty := fun hw => by cases hw <;> exact hre }
  case d8r w =>
    cases hs; refine { h' with pingLocalSoon := ?_ } <;> dsimp only
    rintro _ ⟨⟩; exact h.pingSoon
  case d8w w v =>
    split at hs <;> cases hs
    refine { h' with pingLocalSoon := nofun, sortedNonempty := nofun, pingSoon := ?_ } <;> dsimp only
    have := h.pingLocalSoon v (by rw [hp]; rfl); rw [minI_eq_min]; omega
  case d9 w =>
    cases w with
    | nil => cases hs; exact { h' with lastScanNow := nofun, transitAfterPrev := nofun, transitDue := nofun }
    | cons x rest =>
      cases hs
      have h1 := h'.fire_listed (b := true) (.inr (.inr (.head _))) fun _ => h'.transitDue rfl x (.head _)
      exact { h1 with listedRegd := fun y hy => h1.listedRegd y (hy.imp_right (.imp_right (.tail _))),
                      transitAfterPrev := fun _ y hy => h1.transitAfterPrev rfl y (.tail _ hy),
                      transitDue := fun _ y hy => h1.transitDue rfl y (.tail _ hy),
                      unfiredListed := fun j hr hf => (h1.unfiredListed j hr hf).tail (fireId_ne (s := s) (i := x.2) (b := true) hf) }
  case f0 => cases hs; exact { h' with disabledFinal := rfl }
  case f2 =>
    cases hs
    -- the daemon holds the locker, so no creator stands between its test of `enabled` and its append
    refine { h' with listedRegd := fun x hx => h'.listedRegd x (Listed.swap.mp hx), newSinceScan := nofun,
                     transitAfterPrev := nofun, transitDue := nofun,
                     unfiredListed := fun id hr hf => Listed.swap.mpr (h'.unfiredListed id hr hf), newEmptied := fun _ => rfl,
                     thr := fun t => { h'.thr t with passedBeforeSwap := fun hps => ?_ } }
    have := (h.thr t).passed_locker hps
    rw [h'.daemonMutex.mp rfl] at this; exact absurd (Option.some.inj this.1).symm this.2
  case f2r nw =>
    cases hs
    exact { h' with daemonMutex := ⟨nofun, nofun⟩, thr := fun t => (h'.thr t).unlock (h'.daemonMutex.mp rfl) id,
                    listedRegd := fun x hx => h'.listedRegd x (Listed.drain.mp hx), sortedLater := nofun,
                    transitAfterPrev := nofun, transitDue := nofun,
                    unfiredListed := fun id hr hf => Listed.drain.mpr (h'.unfiredListed id hr hf), sortedEmptied := fun _ => rfl,
                    sortedNonempty := nofun }
  case f3 w =>
    cases w with
    | nil => cases hs; exact { h' with scanRecent := nofun }
    | cons x rest =>
      cases hs
      have h1 := h'.fire_listed (b := false) (.inr (.inr (.head _))) nofun
      exact { h1 with listedRegd := fun y hy => h1.listedRegd y (hy.imp_right (.imp_right (.tail _))),
                      transitAfterPrev := nofun, transitDue := nofun,
                      unfiredListed := fun j hr hf => (h1.unfiredListed j hr hf).tail (fireId_ne (s := s) (i := x.2) (b := false) hf) }
  case done => cases hs

theorem inv_stepC {s s' : State} {t : Nat} {l : Label} (h : Inv s) (ht : t ≠ 0) (hs : stepC s t = some (s', l)) : Inv s' := by
  have hc := h.thr t
  cases hp : s.cpc t <;> simp only [stepC, hp] at hs <;> rw [hp] at hc
  case idle => cases hs
  case c0 secs g0 => cases hs; exact h.setC_plain ht (by rw [hp]; rfl) (CPC.plain_ite rfl (CPC.plain_ite rfl rfl))
  case c0a secs g0 => cases hs; exact h.setC_plain ht (by rw [hp]; rfl) (CPC.plain_ite rfl rfl)
  case c1 secs =>
    cases hs
    have old : ∀ {j}, s.regd j = true ∨ s.created j = true → j ≠ s.nextId := fun hj => Nat.ne_of_lt (h.lt_nextId hj)
    refine { h with listedRegd := ?listedRegd, unfiredListed := ?unfiredListed, fresh := ?fresh,
                    thr := ThreadI.update h.thr (fun u hu hu' => ?others) ?self } <;>
      dsimp only [State.setC]
    case listedRegd =>
      intro x hx
      have := h.listedRegd x hx
      rw [if_neg (old (.inl this.2))]; exact this
    case unfiredListed =>
      intro j hr hf
      rw [if_neg (old (.inl hr))]; exact h.unfiredListed j hr hf
    case fresh =>
      intro j hj
      have := h.fresh j (by omega)
      rw [if_neg (by omega)]; exact this
    case others =>
      exact { hu' with
        makingOwn := fun j hj => by
          have := hu'.makingOwn j hj
          rw [if_neg (old (.inr this.2)), if_neg (old (.inr this.2))]; exact this
        pendDeadline := fun d j hj => by
          rw [if_neg (old (.inr (hu'.makingOwn j (CPC.pend_making hj)).2))]; exact hu'.pendDeadline d j hj
        noOrphan := fun j => by
          split
          · exact fun e => absurd e.symm hu
          · exact hu'.noOrphan j }
    case self =>
      exact { hc with
        makingOwn := by rintro _ ⟨⟩; exact ⟨if_pos rfl, if_pos rfl⟩
        unregdUnfired := by rintro _ ⟨⟩; exact (h.fresh s.nextId (Nat.le_refl _)).2
        pendDeadline := by rintro _ _ ⟨⟩; exact (if_pos rfl).symm
        noOrphan := fun j => by
          split
          · rename_i e; exact fun _ _ _ _ => e ▸ rfl
          · exact fun h1 h2 h3 h4 => nomatch hc.noOrphan j h1 h2 h3 h4 }
  case c2 d id =>
    split at hs <;> cases hs
    rename_i hl
    refine { h with daemonMutex := ?_, thr := ThreadI.update h.thr (fun u hu hu' => hu'.lock hl fun _ => hu)
                                     { hc with mutex := fun _ => ⟨fun _ => rfl, fun _ => rfl⟩ } }
    have := h.daemonMutex; rw [hl] at this
    exact ⟨fun hh => (nomatch this.mp hh), fun e => absurd (Option.some.inj e) ht⟩
  case c3 d id =>
    cases hs
    refine { h with thr := ThreadI.update h.thr (fun _ _ hu => hu) { hc with passedBeforeSwap := fun hps => ?_ } }
    cases hf : s.dpc.postSwap
    · exact hf
    · have := h.disabledFinal; rw [DPC.postSwap_final _ hf] at this; rw [this] at hps; cases hps
  case c3b d id g0 =>
    split at hs <;> cases hs
    · obtain ⟨rfl, -⟩ := Bool.and_eq_true_iff.mp ‹_›
      obtain rfl := hc.pendDeadline d id rfl
      have hmk := hc.makingOwn id rfl
      refine { h with pingSoon := ?pingSoon, listedRegd := ?listedRegd, newSinceScan := ?newSinceScan,
                      transitAfterPrev := ?transitAfterPrev, unfiredListed := ?unfiredListed, newEmptied := ?newEmptied, fresh := ?fresh,
                      thr := ThreadI.update h.thr (fun u hu hu' => ?others) ?self } <;> dsimp only [State.setC]
      case pingSoon => have := h.pingSoon; rw [minI_eq_min]; omega
      case listedRegd =>
        intro x hx
        rcases Listed.snoc.mp hx with rfl | hx
        · exact ⟨rfl, if_pos rfl⟩
        · have := h.listedRegd x hx; exact ⟨this.1, by rw [this.2, ite_self]⟩
      case newSinceScan =>
        intro x hx
        split
        · exact h.scanPast
        · rcases List.mem_append.mp hx with hx | hx
          · exact h.newSinceScan x hx
          · cases List.mem_singleton.mp hx; exact absurd rfl ‹_›
      case transitAfterPrev =>
        intro hsc x hx
        rw [if_neg fun e => by have := (h.listedRegd x (.inr (.inr hx))).2; rw [e, (hc.unregdUnfired id rfl).1] at this; cases this]
        exact h.transitAfterPrev hsc x hx
      case unfiredListed =>
        intro j hr hf
        split at hr
        · subst j; exact Listed.snoc.mpr (.inl rfl)
        · exact Listed.snoc.mpr (.inr (h.unfiredListed j hr hf))
      case newEmptied => intro hh; rw [hc.passedBeforeSwap rfl] at hh; cases hh
      case fresh =>
        intro j hj
        have := h.fresh j hj
        rw [if_neg fun e => by have := h.lt_nextId (.inr hmk.2); omega]; exact this
      case others =>
        refine { hu' with unregdUnfired := fun j hj => ?_, noOrphan := fun j h1 h2 h3 => hu'.noOrphan j h1 h2 (upd_false h3).2 }
        -- another creator's unregistered Till is not `id`: they have different makers
        rw [if_neg fun e : j = id => hu ((hu'.makingOwn j (CPC.unregistered_making hj)).1.symm.trans (e ▸ hmk.1))]
        exact hu'.unregdUnfired j hj
      case self =>
        refine { hc with passedBeforeSwap := nofun, makingOwn := nofun, unregdUnfired := nofun, pendDeadline := nofun,
                         noOrphan := fun j h1 h2 h3 h4 => ?_ }
        cases hc.noOrphan j h1 h2 (upd_false h3).2 h4
        exact absurd rfl (upd_false h3).1
    · exact { h with thr := ThreadI.update h.thr (fun _ _ hu => hu)
                              { hc with passedBeforeSwap := nofun, unregdUnfired := nofun, pendDeadline := nofun } }
  case c4 id late =>
    cases hs
    have hl := (hc.mutex ht).mp rfl
    refine { h with daemonMutex := ?daemonMutex, thr := ThreadI.update h.thr (fun u hu hu' => hu'.unlock hl fun _ => hu) ?self }
    case daemonMutex =>
      have := h.daemonMutex; rw [hl] at this
      exact ⟨fun hh => absurd (Option.some.inj (this.mp hh)) ht, nofun⟩
    case self =>
      cases late
      · exact { hc with zeroIdle := fun e => absurd e ht, mutex := fun _ => ⟨nofun, nofun⟩ }
      · exact { hc with mutex := fun _ => ⟨nofun, nofun⟩ }
  case c5 id =>
    cases hs
    have hmk := hc.makingOwn id rfl
    have h1 := h.fire (b := false) (h.lt_nextId (.inr hmk.2)) (fun u hu => by
      have := (h.thr u).makingOwn id (CPC.unregistered_making hu)
      rw [← this.1, hmk.1, hp] at hu; cases hu) nofun
    have hc1 := h1.thr t
    rw [fireId_cpc, hp] at hc1
    refine { h1 with thr := ThreadI.update h1.thr (fun _ _ hu => hu)
                              { hc1 with zeroIdle := fun e => absurd e ht, makingOwn := nofun, noOrphan := fun j h1 h2 h3 h4 => ?_ } }
    cases hc1.noOrphan j h1 h2 h3 h4
    exact absurd rfl (fireId_ne h4)

theorem inv_step {s s' : State} {t : Nat} {l : Label} (h : Inv s) (hs : step s t = some (s', l)) : Inv s' := by
  unfold step at hs
  split at hs
  · exact inv_stepD h hs
  · rename_i ht; exact inv_stepC h ht hs

theorem inv_init (I : Int) (hI : 0 < I) : Inv (init I) :=
  have h0 : (0 : Int) ≤ 0 + I := by omega
  { daemonMutex := ⟨nofun, nofun⟩
    disabledFinal := rfl
    intervalPos := hI
    scanPast := Int.le_refl _
    scanRecent := fun _ => h0
    scanSpacing := ⟨Int.le_refl _, h0⟩
    pingSoon := h0
    pingLocalSoon := nofun
    clockLocalNow := nofun
    lastScanNow := nofun
    listedRegd := fun _ hx => by rcases hx with hx | hx | hx <;> cases hx
    newSinceScan := nofun
    sortedLater := nofun
    transitAfterPrev := nofun
    transitDue := nofun
    unfiredListed := nofun
    newEmptied := nofun
    sortedEmptied := nofun
    sortedNonempty := nofun
    neverEarly := rfl
    fresh := fun _ _ => ⟨rfl, rfl, rfl⟩
    thr := fun t => ⟨fun _ => rfl, fun _ => ⟨nofun, nofun⟩, nofun, nofun, nofun, nofun, nofun⟩ }

theorem inv_call {s s' : State} {t : Nat} {secs : Int} (h : Inv s)
    (hc : callTill s t secs = some s' ∨ callTillAbs s t secs = some s') : Inv s' := by
  unfold callTill callTillAbs at hc
  rcases hc with hc | hc
  all_goals
    split at hc
    · cases hc
    · rename_i ht
      split at hc <;> cases hc
      rename_i hp
      exact h.setC_plain ht (by rw [hp]; rfl) rfl

theorem inv_tick {s : State} {d : Int} (h : Inv s) (hk : tickOk s d) : Inv (tick s d) := by
  obtain ⟨hd, hw, hidle⟩ := hk
  have hM := h.scanPast
  have quiet : s.dpc.clockLocal = none ∧ s.dpc.scanning = false ∧ s.dpc.dueWork = false := by
    rcases hw with ⟨w, hw, _⟩ | hw <;> rw [hw] <;> exact ⟨rfl, rfl, rfl⟩
  refine { h with scanPast := ?scanPast, scanRecent := fun (ha : s.dpc.ended = false) => ?scanRecent,
                  clockLocalNow := fun n (hn : s.dpc.clockLocal = some n) => (nomatch quiet.1.symm.trans hn),
                  lastScanNow := fun (hn : s.dpc.scanning = true) => (nomatch quiet.2.1.symm.trans hn),
                  transitDue := fun (hn : s.dpc.dueWork = true) => (nomatch quiet.2.2.symm.trans hn) } <;> dsimp only [tick]
  case scanPast => omega
  case scanRecent =>
    rcases hw with ⟨w, hw, hle⟩ | hw
    · have := h.pingLocalSoon w (by rw [hw]; rfl); omega
    · rw [hw] at ha; cases ha

theorem reach_inv {s : State} (h : sys.Reach s) : Inv s := by
  refine Sys.Reach.invariant sys (P := Inv) ?_ ?_ ?_ h
  · rintro s ⟨I, hI, rfl⟩; exact inv_init I hI
  · rintro s s' hi (⟨t, secs, hc⟩ | ⟨t, secs, hc⟩ | rfl | ⟨d, hk, rfl⟩)
    · exact inv_call hi (.inl hc)
    · exact inv_call hi (.inr hc)
    · exact { hi with }
    · exact inv_tick hi hk
  · intro s s' t l hi hs; exact inv_step hi hs

end MoThreads.Till
