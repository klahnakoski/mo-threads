/-
  M5 (ThreadTree): the invariant `Inv` (TreeInv.lean) holds in every reachable state.  Every transition is a *call move*
  (`inv_call_update`), a *phase move* (`inv_phase_update`; `inv_phase_move` where `stopped` stays), or the two composed.
  The side conditions of these lemmas have default proofs, which go through when the constructors at hand are not of the
  form the condition asks about, or classify alike; so a case of `inv_step` names the facts its move establishes.  The
  registration of a child (`children` and `everChild` grow together) is done by hand.
-/
import MoThreads.Proofs.TreeFrame
namespace MoThreads.ThreadTree
open MoThreads

theorem jun_of {s s' : State} (hm : ∀ x, s.stopped x = true → s'.stopped x = true) {pend : List Nat} {r : List JAct}
    (h : okJ s pend r) : okJ s' pend r := okJ_imp (fun _ hx => hx.imp_left (hm _)) h

/-- the default: `stopped` is not written (seen by unfolding the record update once `s'` is known) -/
theorem Inv.jun_same {s s' : State} (h : Inv s) (hm : ∀ x, s.stopped x = true → s'.stopped x = true := by exact fun _ hx => hx) :
    ∀ t top work tl raised, (s.call t).jwork = some (top, work, tl, raised) → okJ s' [] work :=
  fun t top work tl raised hw => jun_of hm (h.jun t top work tl raised hw)

/-- what `jtop` says of one top-level thread: still to be started or waited for, stopped, or given up on after a timeout -/
def Pend (s : State) (tl : Option Nat) (work : List JAct) (raised : List Nat) (u : Nat) : Prop :=
  .start u ∈ work ∨ .wait u ∈ work ∨ s.stopped u = true ∨ (tillOn s tl = true ∧ u ∈ raised)

theorem inv_call_update {s : State} (h : Inv s) {t : Nat} {p : Phase} (hph : s.phase t = p) {c' : Call}
    {ps jn ia : Nat → Bool} {ao : List Nat}
    {ch : Nat → List Nat}
    (hch : ∀ p c, c ∈ s.everChild p → c ∈ ch p ∨ s.stopped c = true)
    (hj : ∀ top work tl raised, c'.jwork = some (top, work, tl, raised) →
            (∀ u, u ∈ top → Pend s tl work raised u) ∧ okJ s [] work := by exact nofun)
    (hsp : ∀ x, c' = .spawn x → s.phase t = .running ∧ s.phase x = .absent ∧ x < s.nextId ∧ ∀ u, s.call u ≠ .spawn x := by exact nofun)
    (hf : ∀ cs, p = .fin3 cs → ∃ work raised, c' = .joining cs work none raised true := by exact nofun) :
    Inv { s with call := upd s.call t c', pstop := ps, joiner := jn, inAll := ia, allOrder := ao, children := ch } := by
  subst hph
  exact { h with
    ever := hch
    jtop := fun u top work tl raised hw => by
      rcases upd_app hw with ⟨_, hw⟩ | ⟨_, hw⟩
      · exact (hj top work tl raised hw).1
      · exact h.jtop u top work tl raised hw
    jun := fun u top work tl raised hw => by
      refine jun_of (s := s) (by exact fun _ hx => hx) ?_
      rcases upd_app hw with ⟨_, hw⟩ | ⟨_, hw⟩
      · exact (hj top work tl raised hw).2
      · exact h.jun u top work tl raised hw
    fin3C := fun p cs hp => by
      show ∃ work raised, upd s.call t c' p = _
      by_cases hpt : p = t
      · subst hpt; rw [upd_same]; exact hf cs hp
      · rw [upd_other _ _ hpt]; exact h.fin3C p cs hp
    spawnR := fun u hu => by
      rcases upd_app hu with ⟨rfl, hq⟩ | ⟨_, hq⟩
      · clear hu
        cases c' with
        | spawn x => exact (hsp x rfl).1
        | _ => cases hq
      · exact h.spawnR u hq
    spawnC := fun u c hu => by
      rcases upd_eq hu with ⟨_, e⟩ | ⟨_, e⟩
      · exact (hsp c e).2.imp_right And.left
      · exact h.spawnC u c e
    spawnU := fun u v c hu hv => by
      rcases upd_eq hu with ⟨rfl, eu⟩ | ⟨_, eu⟩ <;> rcases upd_eq hv with ⟨rfl, ev⟩ | ⟨_, ev⟩
      · rfl
      · exact absurd ev ((hsp c eu).2.2.2 v)
      · exact absurd eu ((hsp c ev).2.2.2 u)
      · exact h.spawnU u v c eu ev }

theorem lt_nextId {s : State} (h : Inv s) {t : Nat} (hp : s.phase t ≠ .absent) : t < s.nextId :=
  Nat.lt_of_not_le fun hle => hp (h.fresh t hle)

theorem inv_phase_update {s : State} (h : Inv s) (t : Nat) {q : Phase} {ia st : Nat → Bool} {ao : List Nat} {ch : Nat → List Nat}
    (hch : ∀ p c, c ∈ s.everChild p → c ∈ ch p ∨ s.stopped c = true)
    (hst : ∀ u, u ≠ t → st u = s.stopped u) (hS : st t = true ↔ q.isStopped = true) (hm : s.stopped t = true → st t = true)
    (hP : q.post = true → s.outcome t ≠ none)
    (hK : ∀ cs, q.finCs = some cs → ∀ c, c ∈ s.everChild t → c ∈ cs ∨ s.stopped c = true)
    (hD : q.finDone = true → ∀ c, c ∈ s.everChild t → s.stopped c = true)
    (h3 : ∀ cs, q = .fin3 cs → ∃ work raised, s.call t = .joining cs work none raised true)
    (hR : (s.call t).isSpawn = true → q = .running) (hA : s.phase t = .absent → t < s.nextId ∧ ∀ u, s.call u ≠ .spawn t) :
    Inv { s with phase := upd s.phase t q, stopped := st, inAll := ia, allOrder := ao, children := ch } := by
  have hmo : ∀ x, s.stopped x = true → st x = true := fun x hx => by
    by_cases hxt : x = t
    · exact hxt ▸ hm (hxt ▸ hx)
    · rw [hst x hxt]; exact hx
  have hA : t < s.nextId ∧ ∀ u, s.call u ≠ .spawn t := by
    by_cases e : s.phase t = .absent
    · exact hA e
    · exact ⟨lt_nextId h e, fun u hu => e (h.spawnC u t hu).1⟩
  exact { h with
    stP := fun u => by
      show st u = true ↔ (upd s.phase t q u).isStopped = true
      by_cases hu : u = t
      · subst hu; rw [upd_same]; exact hS
      · rw [upd_other _ _ hu, hst u hu]; exact h.stP u
    outP := fun u hu => by
      rcases upd_app hu with ⟨rfl, hq⟩ | ⟨_, hq⟩
      · exact hP hq
      · exact h.outP u hq
    ever := fun p c hc => (hch p c hc).imp_right (hmo c)
    finK := fun p cs hp c hc => by
      rcases upd_app hp with ⟨rfl, hq⟩ | ⟨_, hq⟩
      · exact (hK cs hq c hc).imp_right (hmo c)
      · exact (h.finK p cs hq c hc).imp_right (hmo c)
    finD := fun p hp c hc => by
      rcases upd_app hp with ⟨rfl, hq⟩ | ⟨_, hq⟩
      · exact hmo c (hD hq c hc)
      · exact hmo c (h.finD p hq c hc)
    jtop := fun u top work tl raised hw x hx =>
      (h.jtop u top work tl raised hw x hx).imp_right (Or.imp_right (Or.imp_left (hmo x)))
    jun := h.jun_same hmo
    fin3C := fun p cs hp => by
      rcases upd_eq hp with ⟨rfl, hq⟩ | ⟨_, hq⟩
      · exact h3 cs hq
      · exact h.fin3C p cs hq
    spawnR := fun u hu => by
      show upd s.phase t q u = _
      by_cases hut : u = t
      · subst hut; rw [upd_same]; exact hR hu
      · rw [upd_other _ _ hut]; exact h.spawnR u hu
    fresh := fun c (hc : s.nextId ≤ c) => by
      show upd s.phase t q c = _
      rw [upd_other _ _ (by have := hA.1; omega)]; exact h.fresh c hc
    spawnC := fun u c hu => by
      show upd s.phase t q c = _ ∧ _
      rw [upd_other _ _ (by rintro rfl; exact hA.2 u hu)]; exact h.spawnC u c hu }

/-- `hP`, `hK`, `hD`: what `q` is classified as, `p` was classified as already (the default: `Or.inl`, by unfolding), or else
the fact the classification stands for is supplied -/
theorem inv_phase_move {s : State} (h : Inv s) {t : Nat} {p q : Phase} (hph : s.phase t = p)
    {ia : Nat → Bool} {ao : List Nat} {ch : Nat → List Nat}
    (hch : ∀ p c, c ∈ s.everChild p → c ∈ ch p ∨ s.stopped c = true)
    (hS : q.isStopped = p.isStopped := by rfl)
    (hP : q.post = true → p.post = true ∨ s.outcome t ≠ none := by exact .inl)
    (hK : ∀ cs, q.finCs = some cs → p.finCs = some cs ∨ ∀ c, c ∈ s.everChild t → c ∈ cs ∨ s.stopped c = true := by exact fun _ => .inl)
    (hD : q.finDone = true → p.finDone = true ∨ ∀ c, c ∈ s.everChild t → s.stopped c = true := by exact .inl)
    (h3 : ∀ cs, q = .fin3 cs → ∃ work raised, s.call t = .joining cs work none raised true := by exact nofun)
    (hR : p = .running → q = .running ∨ (s.call t).isSpawn = false := by exact nofun)
    (hA : p = .absent → t < s.nextId ∧ ∀ u, s.call u ≠ .spawn t := by exact nofun) :
    Inv { s with phase := upd s.phase t q, inAll := ia, allOrder := ao, children := ch } := by
  subst hph
  exact inv_phase_update h t hch (hst := fun _ _ => rfl) (hS := hS ▸ h.stP t) (hm := id) (hP := fun hq => (hP hq).elim (h.outP t) id)
    (hK := fun cs hq => (hK cs hq).elim (h.finK t cs) id) (hD := fun hq => (hD hq).elim (h.finD t) id) (h3 := h3)
    (hR := fun hs => (hR (h.spawnR t hs)).resolve_right (by rw [hs]; nofun)) (hA := hA)

theorem ever_erase {s : State} (h : Inv s) {u : Nat} (hu : s.stopped u = true) (q : Nat) :
    ∀ p c, c ∈ s.everChild p → c ∈ upd s.children q ((s.children q).erase u) p ∨ s.stopped c = true := by
  intro p c hc
  by_cases hcu : c = u
  · exact Or.inr (hcu ▸ hu)
  · refine (h.ever p c hc).imp_left fun h1 => ?_
    by_cases hp : p = q
    · subst hp; rw [upd_same]; exact (List.mem_erase_of_ne hcu).mpr h1
    · rw [upd_other _ _ hp]; exact h1

theorem Pend.step {s : State} {tl : Option Nat} {a : JAct} {rest work' : List JAct} {raised raised' : List Nat} {u : Nat}
    (h : Pend s tl (a :: rest) raised u)
    (ha : a = .start u ∨ a = .wait u → Pend s tl work' raised' u)
    (hr : ∀ x, x ∈ raised → x ∈ raised' := by exact fun _ h => h)
    (hrest : ∀ b, b ∈ rest → b = .start u ∨ b = .wait u → b ∈ work' := by exact fun _ hb _ => hb) : Pend s tl work' raised' u := by
  rcases h with h | h | h | h
  · rcases List.mem_cons.mp h with h | h
    · exact ha (Or.inl h.symm)
    · exact Or.inl (hrest _ h (Or.inl rfl))
  · rcases List.mem_cons.mp h with h | h
    · exact ha (Or.inr h.symm)
    · exact Or.inr (Or.inl (hrest _ h (Or.inr rfl)))
  · exact Or.inr (Or.inr (Or.inl h))
  · exact Or.inr (Or.inr (Or.inr ⟨h.1, hr u h.2⟩))

theorem inv_stepJoin {s s' : State} {t : Nat} {l : Label} {top : List Nat} {work : List JAct} {tl : Option Nat}
    {raised : List Nat} {all : Bool} {k : List JAct → List Nat → Call} (h : Inv s)
    (hs : stepJoin s t top work tl raised all k = some (s', l))
    (hcur : (s.call t).jwork = some (top, work, tl, raised))
    {p : Phase} (hph : s.phase t = p)
    (hk : ∀ w r, (k w r).jwork = some (top, w, tl, r) ∧ (k w r).isSpawn = false := by exact fun _ _ => ⟨rfl, rfl⟩)
    (hf : ∀ cs, p = .fin3 cs → ∀ w r, ∃ work' raised', k w r = .joining cs work' none raised' true := by exact nofun) : Inv s' := by
  have hjt : ∀ x, x ∈ top → Pend s tl work raised x := h.jtop t top work tl raised hcur
  have hju := h.jun t top work tl raised hcur
  have key : ∀ {w' r' jn ch}, (∀ p c, c ∈ s.everChild p → c ∈ ch p ∨ s.stopped c = true) →
      (∀ x, x ∈ top → Pend s tl w' r' x) → okJ s [] w' →
      Inv { s with call := upd s.call t (k w' r'), joiner := jn, children := ch } := fun {w' r' _ _} hch h1 h2 =>
    inv_call_update h hph hch (fun top' work' tl' raised' hh => by rw [(hk _ _).1] at hh; cases hh; exact ⟨h1, h2⟩)
      (fun x e => by have h0 := (hk w' r').2; rw [e] at h0; cases h0)
      (fun cs hp => hf cs hp _ _)
  unfold stepJoin at hs
  cases work with
  | nil => cases hs
  | cons a rest =>
    cases a with
    | start u =>
      -- the children's joins come first, then `mark`, `wait`, `unreg`, `finish` for `u` itself: `unreg u` is behind `wait u`
      cases hs
      refine key h.ever (fun x hx => (hjt x hx).step (hrest := fun b hb _ => by simp [hb]) fun e => by
        rcases e with e | e <;> cases e; exact Or.inr (Or.inl (by simp))) ?_
      have : okJ s [] ([JAct.mark u, .wait u, .unreg u, .finish u (s.children u)] ++ rest) :=
        ⟨Or.inr (List.mem_cons_self ..), okJ_imp (fun _ hx => hx.imp_right (by simp)) hju⟩
      simpa using okJ_starts (s.children u) this
    | mark u => cases hs; exact key h.ever (fun x hx => (hjt x hx).step (by simp)) hju
    | wait u =>
      simp only at hs
      split at hs
      · rename_i hst
        cases hs
        exact key h.ever (fun x hx => (hjt x hx).step fun e => by
            rcases e with e | e <;> cases e; exact Or.inr (Or.inr (Or.inl hst)))
          (okJ_imp (fun x hx => hx.elim Or.inl fun hm => by rw [List.mem_singleton.mp hm]; exact Or.inl hst) hju)
      · split at hs
        · rename_i htl
          cases hs
          exact key h.ever (fun x hx => (hjt x hx).step (hr := fun _ => List.mem_cons_of_mem u)
              (hrest := fun b hb e => List.mem_filter.mpr ⟨hb, by rcases e with rfl | rfl <;> simp⟩) fun e => by
                rcases e with e | e <;> cases e; exact Or.inr (Or.inr (Or.inr ⟨htl, List.mem_cons_self ..⟩)))
            (okJ_filter (fun x hx h1 => h1.imp_right fun hm => absurd (List.mem_singleton.mp hm) hx) hju)
        · cases hs
    | unreg u =>
      cases hs
      have hst : s.stopped u = true := hju.1.resolve_right List.not_mem_nil
      exact key (ever_erase h hst _) (fun x hx => (hjt x hx).step (by simp)) hju.2
    | finish u cs =>
      cases hs
      refine key h.ever (fun x hx => (hjt x hx).step (by simp) (hr := fun y hy => ?_)) hju
      split
      · split
        · exact hy
        · exact List.mem_cons_of_mem u hy
      · exact hy

theorem jwork_starts {s : State} {c' : Call} {top : List Nat} {tl : Option Nat} (hc : c'.jwork = some (top, top.map .start, tl, [])) :
    ∀ top' work tl' raised, c'.jwork = some (top', work, tl', raised) →
      (∀ u, u ∈ top' → Pend s tl' work raised u) ∧ okJ s [] work := by
  intro top' work tl' raised hw
  rw [hc] at hw; cases hw
  exact ⟨fun u hu => Or.inl (List.mem_map_of_mem hu), okJ_map_start _ _⟩

theorem inv_stepStop {s s' : State} {t : Nat} {l : Label} {work : List SAct} {k : List SAct → Call} (h : Inv s)
    (hs : stepStop s t work k = some (s', l)) {p : Phase} (hph : s.phase t = p)
    (hk : ∀ w, (k w).isSpawn = false ∧ (k w).jwork = none := by exact fun _ => ⟨rfl, rfl⟩)
    (hnf : ∀ cs, p ≠ .fin3 cs := by exact nofun) : Inv s' := by
  obtain ⟨w', ps, rfl, _⟩ := stepStop_eq hs
  exact inv_call_update h hph h.ever (fun _ _ _ _ hw => by rw [(hk w').2] at hw; cases hw)
    (fun x e => by have h0 := (hk w').1; rw [e] at h0; cases h0)
    (fun cs hp => absurd hp (hnf cs))

theorem Inv.joined {s : State} (h : Inv s) {t : Nat} {top raised : List Nat} {tl : Option Nat}
    (hc : (s.call t).jwork = some (top, [], tl, raised)) {u : Nat} (hu : u ∈ top) :
    s.stopped u = true ∨ (tillOn s tl = true ∧ u ∈ raised) :=
  ((h.jtop t top [] tl raised hc u hu).resolve_left nofun).resolve_left nofun

theorem Inv.joined_none {s : State} (h : Inv s) {t : Nat} {top raised : List Nat}
    (hc : (s.call t).jwork = some (top, [], none, raised)) {u : Nat} (hu : u ∈ top) : s.stopped u = true :=
  (h.joined hc hu).resolve_right fun h1 => by cases h1.1

theorem inv_step {s s' : State} {t : Nat} {l : Label} (h : Inv s) (hs : step s t = some (s', l)) : Inv s' := by
  unfold step at hs
  cases hph : s.phase t <;> rw [hph] at hs <;> simp only at hs
  case absent | dead => cases hs
  case created | peek | fin5 => cases hs; exact inv_phase_move h hph h.ever
  case fin1 =>
    cases hs
    have h1 := inv_phase_move (q := .fin2 (s.children t)) (ia := s.inAll) (ao := s.allOrder) h hph h.ever
      (hK := fun cs hp => .inr (by cases hp; exact h.ever t))
    exact inv_call_update h1 (upd_same ..) h.ever
  case fin2 cs =>
    split at hs
    · cases hs
      have h1 := inv_call_update (c' := .joining cs (cs.map .start) none [] true) (ps := s.pstop) (jn := s.joiner) (ia := s.inAll)
        (ao := s.allOrder) h hph h.ever (jwork_starts rfl)
      exact inv_phase_move h1 hph h.ever (h3 := fun cs' hp => by cases hp; exact ⟨_, _, upd_same ..⟩)
    · exact inv_stepStop h hs hph
    · cases hs
  case fin3 cs =>
    obtain ⟨w0, r0, hcc⟩ := h.fin3C t cs hph
    split at hs
    · -- nothing left to join: every registered child is in `cs` or has stopped, and all of `cs` have been waited for
      rename_i hc
      cases hs
      rw [hc] at hcc; cases hcc
      have hall : ∀ c, c ∈ s.everChild t → s.stopped c = true := fun c hcm =>
        (h.finK t cs (by rw [hph]; rfl) c hcm).elim (h.joined_none (t := t) (by rw [hc]; rfl)) id
      have h1 := inv_phase_move (q := .fin4 cs) (ia := s.inAll) (ao := s.allOrder) h hph h.ever (hK := nofun) (hD := fun _ => .inr hall)
      exact inv_call_update h1 (upd_same ..) h.ever
    · rename_i hc
      rw [hc] at hcc; cases hcc
      exact inv_stepJoin h hs (by rw [hc]; rfl) hph (hf := fun cs' hh w r => by cases hh; exact ⟨_, _, rfl⟩)
    · cases hs
  case fin4 cs =>
    cases hs
    refine inv_phase_move h hph fun p c hc => ?_
    by_cases hp : p = t
    · exact Or.inr (h.finD t (by rw [hph]; rfl) c (hp ▸ hc))
    · rw [upd_other _ _ hp]; exact h.ever p c hc
  case fin6 =>
    -- `stopped` is triggered together with the move to `linger`
    cases hs
    exact inv_phase_update h t h.ever (hst := fun u hu => upd_other _ _ hu) (hS := ⟨fun _ => rfl, fun _ => upd_same ..⟩)
      (hm := fun _ => upd_same ..)
      (hP := fun _ => h.outP t (by rw [hph]; rfl)) (hK := nofun) (hD := fun _ => h.finD t (by rw [hph]; rfl)) (h3 := nofun)
      (hR := fun hp => absurd (h.spawnR t hp) (by rw [hph]; nofun)) (hA := by rw [hph]; nofun)
  case linger =>
    have hd : ∀ {ch}, (∀ p c, c ∈ s.everChild p → c ∈ ch p ∨ s.stopped c = true) →
        Inv { s with phase := upd s.phase t .dead, children := ch } :=
      fun hch => inv_phase_move h hph hch
    split at hs
    · cases hs; exact hd h.ever
    · split at hs
      · split at hs
        · cases hs; exact hd h.ever
        · -- sixty seconds without a joiner: the thread (stopped long ago) takes itself out of its parent's list
          cases hs; exact hd (ever_erase h ((h.stP t).mpr (by rw [hph]; rfl)) _)
      · cases hs
  case running =>
    cases hc : s.call t <;> simp only [hc] at hs
    case idle => cases hs
    case spawn c =>
      obtain ⟨hab, hlt⟩ := h.spawnC t c hc
      split at hs
      · -- start(): `c` comes to life; `t` was the only thread spawning it
        cases hs
        have h1 := inv_call_update (c' := .idle .done) (ps := s.pstop) (jn := s.joiner) (ia := s.inAll) (ao := s.allOrder) h hph h.ever
        refine inv_phase_move h1 hab h.ever (hA := fun _ => ⟨hlt, fun u hu => ?_⟩)
        rcases upd_eq hu with ⟨_, e⟩ | ⟨hut, e⟩
        · cases e
        · exact hut (h.spawnU u t c e hc)
      · -- registration: `t` is running, so neither `finK` nor `finD` speaks of it
        cases hs
        exact { h with
          jun := h.jun_same
          ever := fun p x hx => by
            rcases mem_upd_snoc.mp hx with h1 | h1
            · exact (h.ever p x h1).imp_left fun h2 => mem_upd_snoc.mpr (.inl h2)
            · exact .inl (mem_upd_snoc.mpr (.inr h1))
          finK := fun p cs hp x hx => by
            rcases mem_upd_snoc.mp hx with h1 | ⟨rfl, _⟩
            · exact h.finK p cs hp x h1
            · rw [hph] at hp; cases hp
          finD := fun p hp x hx => by
            rcases mem_upd_snoc.mp hx with h1 | ⟨rfl, _⟩
            · exact h.finD p hp x h1
            · rw [hph] at hp; cases hp }
    case releasing | m0 | m1 | m2 => cases hs; exact inv_call_update h hph h.ever
    case stopping =>
      split at hs
      · cases hs; exact inv_call_update h hph h.ever
      · exact inv_stepStop h hs hph
    case joining | mJ | mRJ =>
      split at hs
      · cases hs; exact inv_call_update h hph h.ever
      · exact inv_stepJoin h hs (by rw [hc]; rfl) hph
    case mS | mRS =>
      split at hs
      · cases hs; exact inv_call_update h hph h.ever (jwork_starts rfl)
      · exact inv_stepStop h hs hph

theorem inv_init : Inv init := by
  constructor <;> simp [init, Call.jwork, Call.isSpawn]
  all_goals (intro t; by_cases h0 : t = 0 <;> simp [h0, Phase.isStopped, Phase.post])

/-- handing out a thread id; `spawn` and `spawnOrphan` differ in `parent` and `orphan`, which the invariant does not read -/
theorem inv_alloc {s : State} (h : Inv s) {pa : Nat → Nat} {orp : Nat → Bool} :
    Inv { s with nextId := s.nextId + 1, parent := pa, orphan := orp } :=
  { h with
    jun := h.jun_same
    fresh := fun c (hc : s.nextId + 1 ≤ c) => h.fresh c (Nat.le_of_succ_le hc)
    spawnC := fun u c hu => (h.spawnC u c hu).imp_right Nat.lt_succ_of_lt }

theorem inv_call {s s' : State} {t : Nat} {op : Op} (h : Inv s) (hc : call s t op = some s') : Inv s' := by
  unfold call at hc
  split at hc
  · rename_i r hph hcl
    cases op with
    | spawn | spawnOrphan =>
      cases hc
      exact inv_call_update (inv_alloc h) hph h.ever (hsp := fun x e => by
        cases e; exact ⟨hph, h.fresh _ (Nat.le_refl _), Nat.lt_succ_self _, fun u hu => absurd (h.spawnC u _ hu).2 (Nat.lt_irrefl _)⟩)
    | stop u | release u => cases hc; exact inv_call_update h hph h.ever
    | join u tl => cases hc; exact inv_call_update h hph h.ever (jwork_starts (top := [u]) rfl)
    | joinAll us tl => cases hc; exact inv_call_update h hph h.ever (jwork_starts rfl)
    | mainStop =>
      simp only at hc
      split at hc
      · cases hc; exact inv_call_update h hph h.ever
      · cases hc
    | finish o =>
      -- the target ends: the outcome is stored in the same move
      simp only at hc
      split at hc
      · cases hc
      · cases hc
        have h1 : Inv { s with outcome := upd s.outcome t (some o) } :=
          { h with outP := fun u hu => by
                      show upd s.outcome t (some o) u ≠ none
                      by_cases hut : u = t
                      · rw [hut, upd_same]; nofun
                      · rw [upd_other _ _ hut]; exact h.outP u hu
                   jun := h.jun_same }
        cases o <;> exact inv_phase_move h1 hph h.ever (hP := fun _ => .inr (by show upd s.outcome t _ t ≠ none; rw [upd_same]; nofun))
          (hK := nofun) (hD := nofun) (hR := fun _ => .inr (by rw [hcl]; rfl))
  · cases hc

theorem inv_fireTill {s : State} (x : Nat) (h : Inv s) : Inv (fireTill s x) :=
  { h with
    jtop := fun t top work tl raised hw u hu => (h.jtop t top work tl raised hw u hu).imp_right <|
        Or.imp_right <| Or.imp_right fun ⟨h1, h2⟩ => by
      refine ⟨?_, h2⟩
      cases tl with
      | none => exact h1
      | some y => exact upd_true x h1
    jun := h.jun_same }

theorem inv_expire {s : State} (t : Nat) (h : Inv s) : Inv (expire s t) :=
  { h with
    jtop := fun u top work tl raised hw x hx => by cases tl <;> exact h.jtop u top work _ raised hw x hx
    jun := h.jun_same }

theorem reach_inv {s : State} (h : sys.Reach s) : Inv s := by
  refine Sys.Reach.invariant sys (P := Inv) ?_ ?_ ?_ h
  · rintro s rfl; exact inv_init
  · rintro s s' hi (⟨t, op, hc⟩ | ⟨x, rfl⟩ | ⟨t, rfl⟩)
    · exact inv_call hi hc
    · exact inv_fireTill x hi
    · exact inv_expire t hi
  · intro s s' t l hi hs; exact inv_step hi hs

end MoThreads.ThreadTree
