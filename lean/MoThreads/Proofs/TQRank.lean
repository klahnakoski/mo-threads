/-
  M7 (TQWorker): a ranking function for runs without environment moves (no new values, no timer firing).
  Every turn of the worker loop consumes a queued item, an entry of the failure pattern, or the fired
  state of the current flush timer (a renewed timer is unfired: `Fresh`).
-/
import MoThreads.Proofs.TQInv
namespace MoThreads.TQWorker

/-- timers that have not been created yet have not fired (the environment fires only created timers) -/
def Fresh (s : State) : Prop := ∀ k, s.nextT ≤ k → s.fired k = false

/-- position in the loop; the value depends on whether the current flush timer has fired -/
def g (f : Bool) : WPC → Nat
  | .done => 0 | .crashed => 0
  | .sendMarker => 2 | .finalFlush => 3 | .final => 4 | .setStop => 5
  | .init0 => 40
  | .loop => if f then 36 else 30
  | .popE => if f then 35 else 29
  | .popT => if f then 35 else 29
  | .afterPopE _ => if f then 54 else 48
  | .dispatch (some _) => if f then 53 else 47
  | .dispatch none => if f then 34 else 41
  | .flushM => if f then 52 else 46
  | .requeue => if f then 54 else 61
  | .second => if f then 33 else 40
  | .flush2 => if f then 32 else 39
  | .newT => if f then 31 else 38

def rank (s : State) : Nat := 20 * s.q.length + 30 * s.fails.length + g (s.fired s.cur) s.pc

variable {s s' : State} {l : Label}

theorem nextOk_fails (h : ¬ nextOk s = true) : 0 < s.fails.length := by
  unfold nextOk at h; split at h <;> simp_all

/-- what a popped item (20) or a used-up pattern entry (30) weighs exceeds what `g` gains, and a renewed timer is unfired -/
theorem rank_step (hf : Fresh s) (hs : step s = some (s', l)) : rank s' < rank s := by
  have hfresh : s.fired s.nextT = false := hf _ (Nat.le_refl _)
  have hfl := @nextOk_fails s
  unfold step at hs
  repeat' split at hs
  all_goals cases hs
  all_goals cases hfc : s.fired s.cur <;> simp [rank, g, *] at * <;> omega

theorem fresh_step (hf : Fresh s) (hs : step s = some (s', l)) : Fresh s' := by
  obtain ⟨-, -, hfi, hn⟩ := step_frame hs
  intro k hk
  rw [hfi]; exact hf k (Nat.le_trans hn hk)

theorem run_length_le_rank {tr : List (Nat × Label)} (hf : Fresh s) (r : sys.Run s tr s') :
    tr.length + rank s' ≤ rank s :=
  Sys.Run.length_le_rank_inv sys rank Fresh (fun _ _ _ _ hP hs => fresh_step hP (sys_step hs))
    (fun _ _ _ _ hP hs => rank_step hP (sys_step hs)) r hf

end MoThreads.TQWorker
