/-
  Inductive invariant of M4 (Queue).  Only the holder of the mutex asserts anything: every pc whose code relies on the
  outcome of an earlier test (room, non-empty, what ended a wait) is a pc inside the lock.  So a step of the holder has
  only its own next assertion to establish, and a move of anybody else has only the holder's to preserve: assertions
  wait for flags to go up, and nobody but the holder takes one down or touches the deque.
-/
import MoThreads.Model.Queue
namespace MoThreads.Queue

/-- pcs at which the thread holds the queue's mutex -/
def PC.holds : PC → Bool
  | .sC .. | .sLen .. | .sTill .. | .sPark .. | .sRel2 .. | .sWoke .. | .sAlertT .. | .sAlertLen ..
      | .sAlertNum .. | .sPost .. | .sAct .. | .sRel .. => true
  | .pLen .. | .pPop | .pC .. | .pPark .. | .pRel2 .. | .pWoke .. | .pT .. => true
  | .oC | .oLen | .oPop | .lLen | .lClear | .nLen | .kClose => true
  | _ => false

/-- what thread `t` relies on at `p`: the outcome of the test it has just made under the mutex, or what ended its wait
(the ranking needs that a producer whose wait() has returned was woken by something) -/
def PC.ok (s : State) (t : Nat) : PC → Prop
  | .sPost _ | .sAct _ true => s.closed = true ∨ s.dq.length < s.max
  | .pPop | .oPop => s.dq ≠ []
  | .pWoke tl => (s.signalled t = true ∨ s.closed = true) ∨ tillOn s tl = true
  | .pT tl => s.closed = true ∨ tillOn s tl = true
  | .sWoke _ tl => s.signalled t = true ∨ (if s.silent then tillOn s tl else s.stalled t) = true
  | _ => True

/-- the linearised history accounts for the contents: in order while nothing was pushed, as multisets always -/
def Hist (dq0 added pushed removed dq : List Nat) : Prop :=
  (pushed = [] → dq0 ++ added = removed ++ dq) ∧
  ∀ v, dq0.count v + added.count v + pushed.count v = removed.count v + dq.count v

section
variable {dq0 added pushed removed dq : List Nat}

theorem Hist.append (h : Hist dq0 added pushed removed dq) (v : Nat) : Hist dq0 (added ++ [v]) pushed removed (dq ++ [v]) :=
  ⟨fun hp => by rw [← List.append_assoc, h.1 hp, List.append_assoc], fun w => by
    have := h.2 w; simp only [List.count_append]; omega⟩

theorem Hist.push (h : Hist dq0 added pushed removed dq) (v : Nat) : Hist dq0 added (v :: pushed) removed (v :: dq) :=
  ⟨fun hp => (nomatch hp), fun w => by have := h.2 w; simp only [List.count_cons]; omega⟩

/-- popleft (`pre = [v]`) and clear (`rest = []`) -/
theorem Hist.take {pre rest : List Nat} (h : Hist dq0 added pushed removed dq) (hd : dq = pre ++ rest) :
    Hist dq0 added pushed (removed ++ pre) rest := by
  subst hd
  exact ⟨fun hp => by rw [h.1 hp, List.append_assoc], fun w => by
    have := h.2 w; simp only [List.count_append] at this ⊢; omega⟩
end

structure Inv (s : State) : Prop where
  excl : ∀ t, (s.pc t).holds = true ↔ s.mutex = some t
  own  : ∀ t, s.mutex = some t → (s.pc t).ok s t
  hist : Hist s.dq0 s.added s.pushed s.removed s.dq

theorem Inv.ok {s : State} (h : Inv s) {t : Nat} {p : PC} (hp : s.pc t = p) (hh : p.holds = true) : p.ok s t :=
  hp ▸ h.own t ((h.excl t).mp (by rw [hp, hh]))

section
variable {pc : Nat → PC} {m : Option Nat} {t : Nat} {p' : PC}

theorem excl_move (h : ∀ u, (pc u).holds = true ↔ m = some u) (hp : p'.holds = (pc t).holds) (u : Nat) :
    (if u = t then p' else pc u).holds = true ↔ m = some u := by
  split
  · subst u; rw [hp]; exact h t
  · exact h u

theorem excl_acquire (h : ∀ u, (pc u).holds = true ↔ none = some u) (hp : p'.holds = true) (u : Nat) :
    (if u = t then p' else pc u).holds = true ↔ some t = some u := by
  split
  · subst u; simp [hp]
  · rename_i hu; simp [h u, Ne.symm hu]

theorem excl_release (h : ∀ u, (pc u).holds = true ↔ some t = some u) (hp : p'.holds = false) (u : Nat) :
    (if u = t then p' else pc u).holds = true ↔ none = some u := by
  split
  · subst u; simp [hp]
  · rename_i hu; simp [h u, Ne.symm hu]
end

variable {s s' : State} {t : Nat} {l : Label} {p p' : PC}

theorem Inv.move (h : Inv s) (hp : s.pc t = p) (hh : p'.holds = p.holds) (hok : p'.ok s t) : Inv (s.setPc t p') where
  excl := excl_move h.excl (by rw [hp, hh])
  own u hu := by
    show (if u = t then p' else s.pc u).ok s u
    split
    · subst u; exact hok
    · exact h.own u hu
  hist := h.hist

theorem Inv.acquire (h : Inv s) (hm : s.mutex = none) (hh : p'.holds = true) (hok : p'.ok s t) :
    Inv ({ s with mutex := some t }.setPc t p') where
  excl := excl_acquire (hm ▸ h.excl) hh
  own u hu := by
    obtain rfl : t = u := Option.some.inj hu
    show (if t = t then p' else s.pc t).ok s t
    rw [if_pos rfl]; exact hok
  hist := h.hist

theorem Inv.release (h : Inv s) (hp : s.pc t = p) (hh : p.holds = true) (hh' : p'.holds = false) :
    Inv ({ s with mutex := none }.setPc t p') where
  excl := excl_release ((h.excl t).mp (by rw [hp, hh]) ▸ h.excl) hh'
  own u hu := nomatch hu
  hist := h.hist

theorem Inv.holder (h : Inv s) (hp : s.pc t = p) (hh : p.holds = true) (hh' : p'.holds = true) {g st : Nat → Bool}
    {d a pu r : List Nat} (hist : Hist s.dq0 a pu r d)
    (hok : p'.ok { s with signalled := g, stalled := st, dq := d, added := a, pushed := pu, removed := r } t) :
    Inv ({ s with signalled := g, stalled := st, dq := d, added := a, pushed := pu, removed := r }.setPc t p') where
  excl := excl_move h.excl (by rw [hp, hh, hh'])
  own u hu := by
    obtain rfl : t = u := Option.some.inj (((h.excl t).mp (by rw [hp, hh])).symm.trans hu)
    show (if t = t then p' else s.pc t).ok _ t
    rw [if_pos rfl]; exact hok
  hist := hist

theorem PC.ok_raise (h : p.ok s t) {c : Bool} {f g st : Nat → Bool} (hc : s.closed = true → c = true)
    (hf : ∀ x, s.tillFired x = true → f x = true) (hg : s.signalled t = true → g t = true) (hst : s.stalled t = true → st t = true) :
    p.ok { s with closed := c, tillFired := f, signalled := g, stalled := st } t := by
  have ht : ∀ tl, tillOn s tl = true → tillOn { s with closed := c, tillFired := f, signalled := g, stalled := st } tl = true :=
    fun tl => by cases tl; exact id; exact hf _
  cases p
  case sPost => exact h.imp_left hc
  case sAct _ b => cases b; trivial; exact h.imp_left hc
  case pPop | oPop => exact h
  case pWoke tl => exact h.imp (.imp hg hc) (ht tl)
  case pT tl => exact h.imp hc (ht tl)
  case sWoke _ tl =>
    refine h.imp hg ?_
    cases s.silent; exact hst; exact ht tl
  all_goals trivial

theorem Inv.raise (h : Inv s) {c : Bool} {f g st : Nat → Bool} (hc : s.closed = true → c = true)
    (hf : ∀ x, s.tillFired x = true → f x = true) (hg : ∀ t, s.signalled t = true → g t = true)
    (hst : ∀ t, s.stalled t = true → st t = true) : Inv { s with closed := c, tillFired := f, signalled := g, stalled := st } where
  excl := h.excl
  own u hu := PC.ok_raise (h.own u hu) hc hf (hg u) (hst u)
  hist := h.hist

theorem inv_init (m : Nat) (a sl : Bool) (d : List Nat) : Inv (init m a sl d) where
  excl _ := by simp [init, PC.holds]
  own _ hu := nomatch hu
  hist := by simp [Hist, init]

theorem inv_envClose (h : Inv s) : Inv (envClose s) := h.raise (fun _ => rfl) (fun _ => id) (fun _ => id) fun _ => id

theorem inv_call {op : Op} (h : Inv s) (hc : call s t op = some s') : Inv s' := by
  unfold call at hc
  split at hc
  · rename_i r hp
    cases op <;> cases hc <;> exact h.move hp rfl trivial
  · cases hc

macro "step_at" hp:ident hs:ident : tactic => `(tactic| (
  unfold step at $hs:ident
  rw [$hp:ident] at $hs:ident
  simp only [acquire] at $hs:ident))

theorem inv_step (h : Inv s) (hs : step s t = some (s', l)) : Inv s' := by
  cases hp : s.pc t <;> simp only [step, hp, acquire] at hs
  case idle => cases hs
  case sAcq a tl f =>
    obtain ⟨hm, hs⟩ := Option.ite_none_right_eq_some.mp hs
    cases hs; cases f <;> exact h.acquire hm rfl trivial
  case pAcq | oAcq | lAcq | nAcq | kAcq =>
    obtain ⟨hm, hs⟩ := Option.ite_none_right_eq_some.mp hs
    cases hs; exact h.acquire hm rfl trivial
  -- the guard of a parked thread is the assertion of the pc at which it wakes
  case sParked | pParked =>
    obtain ⟨hc, hs⟩ := Option.ite_none_right_eq_some.mp hs
    simp only [Bool.and_eq_true, Bool.or_eq_true, decide_eq_true_eq] at hc
    cases hs; exact h.acquire hc.2 rfl hc.1
  case sRel2 | pRel2 | sRel => cases hs; exact h.release hp rfl rfl
  case sAlertNum | pPark | pT | lLen | nLen => cases hs; exact h.move hp rfl trivial
  case sTill | sAlertT | sAlertLen | pC | oC => split at hs <;> cases hs <;> exact h.move hp rfl trivial
  case sC =>
    split at hs <;> cases hs
    · exact h.move hp rfl (.inl ‹_›)
    · exact h.move hp rfl trivial
  case sLen a tl =>
    split at hs <;> cases hs
    · cases tl <;> exact h.move hp rfl trivial
    · exact h.move hp rfl (.inr (by omega))
  case sPost a =>
    split at hs <;> cases hs
    · exact h.move hp rfl trivial
    · exact h.move hp rfl (h.ok (p := .sPost a) hp rfl)
  case pLen | oLen =>
    split at hs <;> cases hs
    · exact h.move hp rfl trivial
    · exact h.move hp rfl (mt (congrArg List.length) ‹_›)
  case sPark => cases hs; exact h.holder hp rfl rfl h.hist trivial
  case sWoke a tl => cases tl <;> split at hs <;> cases hs <;> exact h.holder hp rfl rfl h.hist trivial
  case pWoke =>
    have : (_ ∨ _) ∨ _ := h.ok hp rfl
    split at hs <;> cases hs
    · exact h.holder hp rfl rfl h.hist trivial
    · exact h.holder hp rfl rfl h.hist (this.imp_left (·.resolve_left ‹_›))
  case sAct a b =>
    rcases a with v | v | _ | ⟨v, vs⟩ <;> simp only at hs
    · cases hs; exact h.holder hp rfl rfl (h.hist.append v) trivial
    · cases hs; exact h.holder hp rfl rfl (h.hist.push v) trivial
    · cases hs; exact h.release hp rfl rfl
    · split at hs <;> cases hs
      · exact (inv_envClose h).move hp rfl trivial
      · exact h.holder hp rfl rfl (h.hist.append v) trivial
  case pPop | oPop =>
    split at hs <;> cases hs
    rename_i v rest hd
    exact h.holder hp rfl rfl (h.hist.take (pre := [v]) hd) trivial
  case lClear => cases hs; exact h.holder hp rfl rfl (h.hist.take (List.append_nil _).symm) trivial
  case cClose | kClose => cases hs; exact (inv_envClose h).move hp rfl trivial

theorem reach_inv (h : sys.Reach s) : Inv s := by
  refine Sys.Reach.invariant sys (P := Inv) ?_ ?_ ?_ h
  · rintro s ⟨m, a, sl, d, rfl⟩; exact inv_init m a sl d
  · rintro s s' hi (⟨t, op, hc⟩ | ⟨x, rfl⟩ | ⟨t, rfl⟩ | ⟨t, rfl⟩ | rfl)
    · exact inv_call hi hc
    · exact hi.raise id (fun y hy => by simp [hy]) (fun _ => id) fun _ => id
    · exact hi.raise id (fun _ => id) (fun y hy => by simp [hy]) fun _ => id
    · exact hi.raise id (fun _ => id) (fun _ => id) fun y hy => by simp [hy]
    · exact inv_envClose hi
  · intro s s' t l hi hs; exact inv_step hi hs

theorem step_frame (hs : step s t = some (s', l)) :
    s'.silent = s.silent ∧ s'.tillFired = s.tillFired ∧ (s.closed = true → s'.closed = true) ∧
      ∀ u, u ≠ t → s'.pc u = s.pc u ∧ s'.signalled u = s.signalled u ∧ s'.stalled u = s.stalled u := by
  cases hp : s.pc t <;> simp only [step, hp, acquire] at hs
  case' sAcq | sParked | pAcq | pParked | oAcq | lAcq | nAcq | kAcq => obtain ⟨-, hs⟩ := Option.ite_none_right_eq_some.mp hs
  case' pPop | oPop => split at hs
  case' sAct a _ => rcases a with v | v | _ | ⟨v, vs⟩ <;> simp only at hs
  case' sAct.extend.cons => split at hs
  all_goals cases hs
  -- the steps that write a flag: the own stall timer, the own `signalled`, `closed`
  case sPark => exact ⟨rfl, rfl, id, fun u hu => ⟨if_neg hu, rfl, if_neg hu⟩⟩
  case sWoke | pWoke => exact ⟨rfl, rfl, id, fun u hu => ⟨if_neg hu, if_neg hu, rfl⟩⟩
  case cClose | kClose | sAct.extend.cons.isTrue => exact ⟨rfl, rfl, fun _ => rfl, fun u hu => ⟨if_neg hu, rfl, rfl⟩⟩
  all_goals exact ⟨rfl, rfl, id, fun u hu => ⟨if_neg hu, rfl, rfl⟩⟩

end MoThreads.Queue
