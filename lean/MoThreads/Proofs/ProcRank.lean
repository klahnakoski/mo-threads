/-
  M8 (ProcessIO): a ranking function.  Without the environment (timeouts, kills, abandoned readers, new calls) every step of
  the child, a reader, the monitor or the caller of join() strictly decreases
    3·|script| + [child alive] + Σ_k (reader position + 2·|pipe k|) + monitor position + caller position.
-/
import MoThreads.Proofs.ProcInv
namespace MoThreads.ProcessIO

def rrank : RPC → Nat
  | .done => 0 | .exiting => 1 | .fin2 => 2 | .fin1 => 3 | .read => 4 | .add _ => 5

def mrank (p : MPC) (rc : Option Nat) : Nat :=
  match p with
  | .test => 9 | .idle => 8 | .wait => 7
  | .chk => if rc.isSome then 6 else 10
  | .post => 5 | .postWait => 4 | .join0 => 3 | .join1 => 2 | .setStopped => 1 | .done => 0

def urank : UPC → Nat
  | .jwait => 3 | .jchk => 2 | .jchk2 => 1 | _ => 0

def R (s : State) (k : Nat) : Nat := rrank (s.rpc k) + 2 * (s.buf k).length

def rank (s : State) : Nat :=
  3 * s.script.length + (if s.exited.isSome then 0 else 1) + R s 0 + R s 1 + mrank s.mpc s.rc + urank s.upc

variable {s s' : State} {l : Label}

theorem mrank_rc_mono (p : MPC) (rc : Option Nat) (st : Nat) : mrank p (some st) ≤ mrank p rc := by
  cases p with
  | chk => cases rc <;> simp [mrank]
  | _ => exact Nat.le_refl _

/-- a written line costs the child 3 and adds 2 to the pipe it goes to -/
theorem rank_stepChild (hs : stepChild s = some (s', l)) : rank s' < rank s := by
  unfold stepChild at hs
  repeat' split at hs
  all_goals cases hs
  all_goals simp only [rank, R, upd, *]
  all_goals repeat' split
  all_goals simp_all
  all_goals omega

theorem rank_stepReader {k : Nat} (hk : k = 0 ∨ k = 1) (hs : stepReader s k = some (s', l)) : rank s' < rank s := by
  unfold stepReader at hs
  repeat' split at hs
  all_goals cases hs
  all_goals rcases hk with rfl | rfl <;> simp [rank, R, upd, rrank, *] <;> omega

theorem rank_stepMonitor (hs : stepMonitor s = some (s', l)) : rank s' < rank s := by
  unfold stepMonitor at hs
  repeat' split at hs
  all_goals cases hs
  all_goals simp [rank, R, mrank, *] <;> omega

theorem rank_stepUser (hs : stepUser s = some (s', l)) : rank s' < rank s := by
  unfold stepUser at hs
  split at hs
  · split at hs <;> cases hs; simp [rank, R, urank, *]
  next hp =>
    split at hs
    · cases hs; simp [rank, R, urank, *]
    · rcases doKill_eq s with ⟨st, he, e⟩ | ⟨he, e⟩ <;> rw [e] at hs <;> cases hs
      · -- a late kill() reaps the status: the monitor's position may only drop
        have := mrank_rc_mono s.mpc s.rc st
        simp [rank, R, urank, *] at this ⊢; omega
      · simp [rank, R, urank, he, hp]; omega
  · cases hs; by_cases h0 : s.rc = some 0 <;> simp [rank, R, urank, *]
  · cases hs

theorem rank_step : ∀ {t : Nat}, step s t = some (s', l) → rank s' < rank s
  | 0, hs => rank_stepChild hs
  | 1, hs => rank_stepReader (.inl rfl) hs
  | 2, hs => rank_stepReader (.inr rfl) hs
  | 3, hs => rank_stepMonitor hs
  | 4, hs => rank_stepUser hs
  | _ + 5, hs => nomatch hs

theorem run_length_le_rank {tr : List (Nat × Label)} (r : sys.Run s tr s') : tr.length + rank s' ≤ rank s :=
  Sys.Run.length_le_rank sys rank (fun _ _ _ _ hs => rank_step hs) r

end MoThreads.ProcessIO
