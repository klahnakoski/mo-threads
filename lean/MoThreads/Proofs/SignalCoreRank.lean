/-
  M1 (SignalCore): a ranking function that every system step strictly decreases, so every run without new API calls has
  bounded length under any scheduler (L2).  The rank of a thread bounds the number of steps its current call can still
  take; for the go() prefix it depends on the current length of the shared lists, so a thread that appends to one of
  them pays for every thread (`N` = a bound on the ids of the threads that are not idle).
-/
import MoThreads.Proofs.SignalCoreInv
namespace MoThreads.SignalCore
open MoThreads

def State.W (s : State) : Nat := (lst s.waiting).length
def State.J (s : State) : Nat := (lst s.jobs).length

def rk (N W J : Nat) : PC → Nat
  | .idle _ => 0
  | .w0 => N + 8 | .w1 => N + 7 | .w2 => N + 6 | .w2r => 1 | .w3 => N + 5 | .w4 _ => N + 4
  | .w5n _ => N + 3 | .w5a _ => N + 3 | .w6 _ => 2 | .w7 _ => 1
  | .g0 => 9 + W + 2 * J | .g1 => 8 + W + 2 * J | .g2 => 7 + W + 2 * J | .g2r => 1
  | .g3 => 6 + W + 2 * J | .g4 => 5 + W + 2 * J | .g5 => 4 + W + 2 * J
  | .g6 js => 3 + W + 2 * js.length | .g7 js => 2 + W + 2 * js.length
  | .g8 js ws => 1 + ws.length + 2 * js.length | .g9 js ws => ws.length + 2 * js.length
  | .g10 js => 2 * js.length | .g11 _ js => 2 * js.length + 1
  | .t1 _ => 2 * N + 5 | .t2 _ => 2 * N + 4 | .t3 _ => 2 * N + 3 | .t4n _ => 2 * N + 2 | .t4a _ => 2 * N + 2
  | .t5 _ => 1 | .t6 _ => 3 | .t7 _ => 2 | .t8 _ => 1
  | .r0 _ => 7 | .r1 _ => 6 | .r2 _ => 5 | .r3 _ => 4 | .r4 _ => 3 | .r5 _ => 2 | .r6 => 1
  | .b0 => 1

def rank (N : Nat) (s : State) : Nat := sumTo N (fun t => rk N s.W s.J (s.pc t))

theorem rk_mono (N : Nat) {W W' J J' a b : Nat} (hW : W' ≤ W + a) (hJ : J' ≤ J + b) (q : PC) :
    rk N W' J' q ≤ rk N W J q + (a + 2 * b) := by
  cases q <;> simp only [rk] <;> omega

theorem rank_lt_of (N : Nat) (s s' : State) (t : Nat) (p' : PC) (a b : Nat)
    (hpc : ∀ u, s'.pc u = if u = t then p' else s.pc u) (hW : s'.W ≤ s.W + a) (hJ : s'.J ≤ s.J + b) (ht : t < N)
    (hdec : rk N s'.W s'.J p' + N * (a + 2 * b) < rk N s.W s.J (s.pc t)) : rank N s' < rank N s := by
  unfold rank
  have h1 := sumTo_point (c := a + 2 * b) (f := fun u => rk N s.W s.J (s.pc u))
    (g := fun u => rk N s'.W s'.J (s'.pc u)) ht (by
      intro u _ hne
      rw [hpc u, if_neg hne]
      exact rk_mono N hW hJ _)
  have h2 : rk N s'.W s'.J (s'.pc t) = rk N s'.W s'.J p' := by rw [hpc t, if_pos rfl]
  omega

theorem lst_some (l : List Nat) : lst (some l) = l := rfl
theorem lst_none : lst none = [] := rfl

set_option hygiene false in
macro "rk_close" a:term "," b:term : tactic => `(tactic| (
  refine rank_lt_of N _ _ t _ $a $b (fun u => rfl) ?_ ?_ ht ?_
  all_goals (try simp only [State.setPc, State.setPcG, State.W, State.J, lst_some, lst_none, hp, afterJob, afterStoppers,
    apply_ite (rk N _ _), List.length_cons, List.length_append, List.length_nil])
  all_goals (try simp only [rk, List.length_cons, List.length_append, List.length_nil])
  all_goals (try split) <;> (try split) <;> (try omega)))

theorem rank_step {N : Nat} {s s' : State} {t : Nat} {l : Label} (ht : t < N) (hs : step s t = some (s', l)) :
    rank N s' < rank N s := by
  unfold step at hs
  cases hp : s.pc t <;> rw [hp] at hs
  case idle => cases hs
  case w1 | g1 | t1 k | r1 k | w7 x => simp only at hs; split at hs <;> (try (cases hs; done)); cases hs; rk_close 0, 0
  case w5n x | w5a x => cases hs; rk_close 1, 0
  case t4n k | t4a k => cases hs; rk_close 0, 1
  case r5 k =>
    cases hs
    have := List.length_erase_le (a := k) (l := lst s.jobs)
    rk_close 0, 0
  case g9 js ws => cases ws <;> cases hs; rk_close 0, 0
  case g10 js => cases js <;> cases hs; rk_close 0, 0
  all_goals cases hs; rk_close 0, 0

def Below (N : Nat) (s : State) : Prop := ∀ t, N ≤ t → ∃ r, s.pc t = .idle r

theorem step_not_idle {s s' : State} {t : Nat} {l : Label} (hs : step s t = some (s', l)) : ¬ ∃ r, s.pc t = .idle r := by
  rintro ⟨r, hr⟩; unfold step at hs; rw [hr] at hs; cases hs

theorem below_step {N : Nat} {s s' : State} {t : Nat} {l : Label} (hb : Below N s) (hs : step s t = some (s', l)) : Below N s' := by
  intro u hu
  by_cases hut : u = t
  · subst hut; exact absurd (hb u hu) (step_not_idle hs)
  · rw [(step_frame hs).1 u hut]; exact hb u hu

theorem run_length_le_rank {N : Nat} {s s' : State} {tr : List (Nat × Label)} (hb : Below N s) (r : sys.Run s tr s') :
    tr.length + rank N s' ≤ rank N s :=
  Sys.Run.length_le_rank_inv sys (rank N) (Below N)
    (fun _ _ _ _ hP hs => below_step hP hs)
    (fun _ _ t _ hP hs => rank_step (Nat.lt_of_not_le fun h => step_not_idle hs (hP t h)) hs) r hb

end MoThreads.SignalCore
