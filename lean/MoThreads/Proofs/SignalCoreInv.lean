/-
  Inductive invariant of M1 (SignalCore).  `Thr s t p`: what thread `t` relies on when its next operation is `p`, read
  through the classifications below and never through `s.pc`; hence `{ ht with sawGo := … }` in a step: it re-types `ht`
  for the new pc and state and names the facts that are new.  `Win s w`: what holds relative to the pc `w` of the thread
  that published the flag.  `Reg s k c`, built like `Thr`: the `then()` registration `k` at the ghost location `c` (C02).
-/
import MoThreads.Model.SignalCore
namespace MoThreads.SignalCore

/-- pcs at which the thread holds `self.lock` -/
def PC.holds : PC → Bool
  | .w2 | .w2r | .w3 | .w4 _ | .w5n _ | .w5a _ | .w6 _ => true
  | .g2 | .g2r | .g3 | .g4 => true
  | .t2 _ | .t3 _ | .t4n _ | .t4a _ | .t5 _ | .t6 _ => true
  | .r2 _ | .r3 _ | .r4 _ | .r5 _ | .r6 => true
  | _ => false

/-- pcs that can only be reached after having seen (or made) the flag true -/
def PC.sawGo : PC → Bool
  | .idle .waitTrue | .idle (.boolV true) => true
  | .w2r | .g2r | .t6 _ | .t7 _ | .t8 _ => true
  | .g4 | .g5 | .g6 _ | .g7 _ | .g8 _ _ | .g9 _ _ | .g10 _ | .g11 _ _ => true
  | _ => false

/-- pcs inside the lock after a locked test saw the flag false -/
def PC.preSet : PC → Bool
  | .w3 | .w4 _ | .w5n _ | .w5a _ | .w6 _ => true
  | .g3 => true
  | .t3 _ | .t4n _ | .t4a _ | .t5 _ => true
  | .r3 _ | .r4 _ | .r5 _ => true
  | _ => false

/-- winner has not yet detached `waiting_threads` -/
def PC.preDetachW : PC → Bool
  | .g4 | .g5 | .g6 _ | .g7 _ | .g8 _ _ => true
  | _ => false

/-- winner has not yet detached `job_queue` -/
def PC.preDetachJ : PC → Bool
  | .g4 | .g5 | .g6 _ => true
  | _ => false

/-- stoppers the winner has detached and not yet released -/
def PC.pendingS : PC → List Nat
  | .g8 _ ws | .g9 _ ws => ws
  | _ => []

/-- callbacks the winner has detached and not yet run -/
def PC.pendingJ : PC → List Nat
  | .g7 js | .g8 js _ | .g9 js _ | .g10 js | .g11 _ js => js
  | _ => []

/-- the stopper is, or is about to be, what the thread parks on -/
def PC.parked : PC → Option Nat
  | .w6 x | .w7 x => some x
  | _ => none

/-- the value of `waiting_threads` that the thread's next write relies on: found empty under the lock
(`w5n`), or read by the publisher and about to be detached (`g8`) -/
def PC.readW : PC → Option (List Nat)
  | .w5n _ => some []
  | .g8 _ ws => some ws
  | _ => none

/-- the same for `job_queue` -/
def PC.readJ : PC → Option (List Nat)
  | .t4n _ => some []
  | .g6 js => some js
  | _ => none

/-- the callback `remove_then` has found in the list -/
def PC.found : PC → Option Nat
  | .r5 k => some k
  | _ => none

/-- the list whose head the loop of `go()` is about to take -/
def PC.loop : PC → Option (List Nat)
  | .g9 _ ws => some ws
  | .g10 js => some js
  | _ => none

/-- inside `go()` before the publishing write -/
def PC.goPre : PC → Bool
  | .g0 | .g1 | .g2 | .g3 => true
  | _ => false

/-- the registration the thread has in hand: `(k, false)` while `then(k)` has neither queued nor run `k`,
`(k, true)` while the error handler of `k` is pending -/
def PC.hand : PC → Option (Nat × Bool)
  | .t1 k | .t2 k | .t3 k | .t4n k | .t4a k | .t6 k | .t7 k => some (k, false)
  | .g11 k _ | .t8 k => some (k, true)
  | _ => none

/-- the thread that has the registration in hand, in the same encoding -/
def Loc.heldBy : Loc → Option (Nat × Bool)
  | .inThen t => some (t, false)
  | .erring t => some (t, true)
  | _ => none

def Loc.isUnborn : Loc → Bool | .unborn => true | _ => false
def Loc.isQueued : Loc → Bool | .queued => true | _ => false
def Loc.isDetached : Loc → Bool | .detached => true | _ => false
def Loc.isErring : Loc → Bool | .erring _ => true | _ => false
def Loc.isDone : Loc → Bool | .done => true | _ => false
def Loc.isRemoved : Loc → Bool | .removed => true | _ => false

def State.winPC (s : State) : PC :=
  match s.winner with
  | some g => s.pc g
  | none => .idle .none   -- nobody publishes: a pc at which `Win` has nothing to detach and nothing pending

theorem lst_eq_nil_of_falsy {w : Option (List Nat)} (h : truthy w = false) : lst w = [] := by
  cases w with
  | none => rfl
  | some l => cases l <;> simp_all [truthy, lst]

theorem truthy_iff {w : Option (List Nat)} : truthy w = true ↔ lst w ≠ [] := by
  cases w with
  | none => simp [truthy, lst]
  | some l => cases l <;> simp [truthy, lst]

theorem PC.preSet_holds (p : PC) (h : p.preSet = true) : p.holds = true := by
  cases p <;> simp_all [PC.preSet, PC.holds]

theorem PC.isWinner_sawGo (p : PC) (h : p.isWinner = true) : p.sawGo = true := by
  cases p <;> simp_all [PC.isWinner, PC.sawGo]

theorem PC.read_cases (p : PC) :
    (p.readW = none ∧ p.readJ = none ∧ p.found = none) ∨ p.preSet = true ∨ p.isWinner = true := by
  cases p <;> simp [PC.readW, PC.readJ, PC.found, PC.preSet, PC.isWinner]

theorem Loc.heldBy_false {c : Loc} {t : Nat} : c.heldBy = some (t, false) ↔ c = .inThen t := by
  cases c <;> simp [Loc.heldBy]

theorem Loc.isUnborn_iff {c : Loc} : c.isUnborn = true ↔ c = .unborn := by
  cases c <;> simp [Loc.isUnborn]

theorem Loc.isQueued_iff {c : Loc} : c.isQueued = true ↔ c = .queued := by
  cases c <;> simp [Loc.isQueued]

theorem Loc.isDetached_iff {c : Loc} : c.isDetached = true ↔ c = .detached := by
  cases c <;> simp [Loc.isDetached]

theorem Loc.heldBy_true {c : Loc} {t : Nat} : c.heldBy = some (t, true) ↔ c = .erring t := by
  cases c <;> simp [Loc.heldBy]

/-- in the hands of no thread but `t` -/
def Loc.free (t : Nat) : Loc → Prop
  | .inThen u | .erring u => u = t
  | _ => True

theorem Loc.free.ne {c : Loc} {t u : Nat} (hc : c.free t) (hu : u ≠ t) (e : Bool) : c.heldBy ≠ some (u, e) := by
  cases c <;> intro he <;> cases he <;> exact hu hc

structure Thr (s : State) (t : Nat) (p : PC) : Prop where
  mutex   : p.holds = true ↔ s.lock = some t
  sawGo   : p.sawGo = true → s.go = true
  preSet  : p.preSet = true → s.go = false
  win     : p.isWinner = true ↔ s.winner = some t
  readW   : ∀ l, p.readW = some l → lst s.waiting = l
  readJ   : ∀ l, p.readJ = some l → lst s.jobs = l
  inJ     : ∀ k, p.found = some k → k ∈ lst s.jobs
  loopNe  : ∀ l, p.loop = some l → l ≠ []
  own     : ∀ k e, p.hand = some (k, e) ↔ (s.loc k).heldBy = some (t, e)
  -- `Never.go` returns at once (signals.py): the only way to the publishing write is closed
  notNever : p.goPre = true → s.never = false

structure Win (s : State) (w : PC) : Prop where
  liveW   : s.go = true → w.preDetachW = false → lst s.waiting = []
  liveJ   : s.go = true → w.preDetachJ = false → lst s.jobs = []
  noLost  : ∀ t x, (s.pc t).parked = some x → s.unlocked x = true ∨ x ∈ lst s.waiting ∨ x ∈ w.pendingS
  locD    : ∀ k, (s.loc k).isDetached = true ↔ k ∈ w.pendingJ
  nodupD  : w.pendingJ.Nodup

structure Reg (s : State) (k : Nat) (c : Loc) : Prop where
  locQ    : k ∈ lst s.jobs ↔ c.isQueued = true
  fresh   : s.nextK ≤ k ↔ c.isUnborn = true
  ranLoc  : s.ran k = if c.hasRun then 1 else 0
  errLoc  : s.errs k = if c.isDone = true ∧ s.raises k = true then 1 else 0
  ranGo   : (c.hasRun = true ∨ c.isDetached = true) → s.go = true
  remLoc  : s.removed k = true ↔ c.isRemoved = true
  errRaises : c.isErring = true → s.raises k = true

structure Glob (s : State) : Prop where
  unl     : ∀ x, s.unlocked x = true → s.go = true
  nodupQ  : (lst s.jobs).Nodup
  nev     : s.never = true → s.go = false

structure Inv (s : State) : Prop extends Glob s where
  reg     : ∀ k, Reg s k (s.loc k)
  thr     : ∀ t, Thr s t (s.pc t)
  win     : Win s s.winPC

theorem inv_init (nv : Bool) (rs : Nat → Bool) : Inv (init nv rs) := by
  refine ⟨?_, fun k => ?_, fun t => ?_, ?_⟩ <;> constructor <;>
    simp [init, Loc.isUnborn, Loc.isQueued, Loc.isDetached, Loc.isErring, Loc.isDone, Loc.isRemoved,
      PC.holds, PC.sawGo, PC.preSet, PC.isWinner, PC.parked, PC.readW, PC.readJ, PC.found, PC.loop,
      PC.hand, PC.goPre, Loc.heldBy, State.winPC, PC.pendingJ, PC.pendingS, PC.preDetachW, PC.preDetachJ, lst, Loc.hasRun]

theorem Inv.setPc {s : State} {t : Nat} {p' w : PC} (hw : (s.setPc t p').winPC = w)
    (oth : ∀ u, u ≠ t → Thr s u (s.pc u)) (self : Thr s t p') (win : Win s w)
    -- `Win.noLost` speaks of every parked thread, so of `t` at its new pc: `nofun` unless `p'` is `w6 x` or `w7 x`
    (park : ∀ x, p'.parked = some x → s.unlocked x = true ∨ x ∈ lst s.waiting ∨ x ∈ w.pendingS)
    (glob : Glob s) (reg : ∀ k, Reg s k (s.loc k)) : Inv (s.setPc t p') :=
  { glob with
    reg := fun k => { reg k with }
    thr := fun u => by
      show Thr _ u (if u = t then p' else s.pc u)
      split
      next hu => subst hu; exact { self with }
      next hu => exact { oth u hu with }
    win := by
      rw [hw]
      refine { win with noLost := fun u x => ?_ }
      show (if u = t then p' else s.pc u).parked = some x → _
      split
      next => exact park x
      next => exact win.noLost u x }

theorem winPC_setPc {s : State} {t : Nat} (p : PC) (hw : s.winner ≠ some t) : (s.setPc t p).winPC = s.winPC := by
  unfold State.winPC State.setPc
  cases hg : s.winner with
  | none => rfl
  | some g => exact if_neg fun h => hw (by rw [hg, h])

theorem Thr.not_winner {s : State} {t : Nat} {p : PC} (ht : Thr s t p) (hp : p.isWinner = false) : s.winner ≠ some t :=
  fun hw => by rw [ht.win.mpr hw] at hp; cases hp

theorem winPC_self {s : State} {t : Nat} (p : PC) (hw : s.winner = some t) : (s.setPc t p).winPC = p := by
  unfold State.winPC State.setPc; rw [hw]; exact if_pos rfl

theorem Inv.winAt {s : State} (h : Inv s) {t : Nat} {p : PC} (hp : s.pc t = p) (hw : p.isWinner = true) :
    s.winner = some t ∧ Win s p := by
  have hw := (h.thr t).win.mp (hp ▸ hw)
  have := h.win; rw [State.winPC, hw] at this; exact ⟨hw, hp ▸ this⟩

theorem Inv.move {s : State} (h : Inv s) {t : Nat} {p' w : PC} {L : Option Nat}
    (hw : (s.setPc t p').winPC = w) (win : Win s w) (self : Thr { s with lock := L } t p')
    (lock : L = s.lock ∨ s.lock = none ∧ L = some t ∨ s.lock = some t ∧ L = none)
    (park : ∀ x, p'.parked = some x → (s.pc t).parked = some x) : Inv ({ s with lock := L }.setPc t p') :=
  Inv.setPc hw
    (fun u hu => { h.thr u with
      mutex := (h.thr u).mutex.trans (by rcases lock with rfl | ⟨h0, rfl⟩ | ⟨h1, rfl⟩ <;> simp [*, Ne.symm hu]) })
    self { win with } (fun x hx => win.noLost t x (park x hx)) { h.toGlob with } (fun k => { h.reg k with })

theorem Inv.goto {s : State} (h : Inv s) {t : Nat} {p' : PC} (self : Thr s t p') (hp' : p'.isWinner = false)
    (park : ∀ x, p'.parked = some x → (s.pc t).parked = some x) : Inv (s.setPc t p') :=
  h.move (L := s.lock) (winPC_setPc p' (self.not_winner hp')) h.win { self with } (.inl rfl) park

theorem Inv.lock {s : State} (h : Inv s) {t : Nat} {p' : PC} {L : Option Nat}
    (hl : s.lock = none ∧ L = some t ∨ s.lock = some t ∧ L = none) (self : Thr { s with lock := L } t p')
    (hp' : p'.isWinner = false) (park : ∀ x, p'.parked = some x → (s.pc t).parked = some x) :
    Inv ({ s with lock := L }.setPc t p') :=
  h.move (winPC_setPc p' (self.not_winner hp')) h.win self (.inr hl) park

theorem Inv.others {s : State} (h : Inv s) {t u : Nat} (hu : u ≠ t)
    (ht : s.lock = some t ∧ s.go = false ∨ s.winner = some t) (W J : Option (List Nat)) :
    Thr { s with waiting := W, jobs := J } u (s.pc u) := by
  have ⟨hW, hJ, hF⟩ : (s.pc u).readW = none ∧ (s.pc u).readJ = none ∧ (s.pc u).found = none := by
    rcases PC.read_cases (s.pc u) with h0 | hps | hwn
    · exact h0
    · rcases ht with ⟨hl, _⟩ | hw
      · have := (h.thr u).mutex.mp (PC.preSet_holds _ hps)
        rw [hl] at this; exact absurd (Option.some.inj this).symm hu
      · have := (h.thr t).sawGo (PC.isWinner_sawGo _ ((h.thr t).win.mpr hw))
        rw [(h.thr u).preSet hps] at this; cases this
    · rcases ht with ⟨_, hg⟩ | hw
      · have := (h.thr u).sawGo (PC.isWinner_sawGo _ hwn)
        rw [hg] at this; cases this
      · have := (h.thr u).win.mp hwn
        rw [hw] at this; exact absurd (Option.some.inj this).symm hu
  exact { h.thr u with
    readW := fun l hl => by rw [hW] at hl; cases hl
    readJ := fun l hl => by rw [hJ] at hl; cases hl
    inJ := fun l hl => by rw [hF] at hl; cases hl }

theorem Inv.enqueue {s : State} (h : Inv s) {t x : Nat} (ht : Thr s t (.w5a x)) {W : List Nat}
    (hW : W = lst s.waiting ++ [x]) : Inv ({ s with waiting := some W }.setPc t (.w6 x)) := by
  have hg := ht.preSet rfl
  exact Inv.setPc (winPC_setPc _ (ht.not_winner rfl))
    (fun u hu => { h.others hu (.inl ⟨ht.mutex.mp rfl, hg⟩) _ s.jobs with })
    { ht with readW := nofun }
    { h.win with
      liveW := fun hg' => nomatch hg.symm.trans hg'
      noLost := fun u y hy => (h.win.noLost u y hy).imp_right (.imp_left fun hm => hW ▸ List.mem_append_left _ hm) }
    (fun y hy => by cases hy; exact .inr (.inl (hW ▸ List.mem_append_right _ (List.mem_singleton_self x))))
    { h.toGlob with } (fun k => { h.reg k with })

theorem Thr.relocate {s : State} {t u k : Nat} {q : PC} {c' : Loc} (loc : Nat → Loc)
    (hloc : s.loc = fun j => if j = k then c' else loc j) (hq : Thr { s with loc := loc } u q)
    (hu : u ≠ t) (hc : (loc k).free t) (hc' : c'.free t) : Thr s u q := by
  refine { hq with own := fun j e => ?_ }
  rw [hloc]
  show _ ↔ (if j = k then c' else loc j).heldBy = _
  split
  · next hj => subst hj; exact iff_of_false (fun h => hc.ne hu e ((hq.own j e).mp h)) (hc'.ne hu e)
  · exact hq.own j e

theorem hand_of {o : Option (Nat × Bool)} {k j : Nat} {e : Bool} (h : (o.map fun x => (k, x.2)) = some (j, e)) : j = k := by
  cases o <;> cases h; rfl

/-- `hp`, `hp'`: before and after the step, `t` has in hand what the location of `k` says and nothing else -/
theorem own_moved {s : State} {t k : Nat} {p p' : PC} {c c' : Loc} {loc : Nat → Loc}
    (ht : Thr { s with loc := loc } t p) (hp : p.hand = c.heldBy.map fun x => (k, x.2))
    (hp' : p'.hand = c'.heldBy.map fun x => (k, x.2)) (hc' : c'.free t) (j : Nat) (e : Bool) :
    p'.hand = some (j, e) ↔ (if j = k then c' else loc j).heldBy = some (t, e) := by
  rw [hp']
  split
  · next hj => subst hj; cases c' <;> simp_all [Loc.heldBy, Loc.free]
  · next hj => exact iff_of_false (fun he => hj (hand_of he)) fun hq => hj (hand_of (hp ▸ (ht.own j e).mpr hq))

theorem Win.relocate {s : State} {w : PC} {k : Nat} {c' : Loc} (loc : Nat → Loc)
    (hloc : s.loc = fun j => if j = k then c' else loc j) (win : Win { s with loc := loc } w)
    (hd : c'.isDetached = (loc k).isDetached) : Win s w := by
  refine { win with locD := fun j => ?_ }
  rw [hloc]
  show (if j = k then c' else loc j).isDetached = true ↔ _
  split
  · next hj => rw [hd, ← hj]; exact win.locD j
  · exact win.locD j

theorem Reg.update {s : State} {k : Nat} {c' : Loc} {loc : Nat → Loc} (hk : Reg s k c')
    (oth : ∀ j, j ≠ k → Reg s j (loc j)) (j : Nat) : Reg s j (if j = k then c' else loc j) := by
  split
  · next hj => exact hj ▸ hk
  · next hj => exact oth j hj

/-- `hc`, `hc'`, for the location of `k` before and after: `t` has in hand what the location says and nothing else (`hp`,
`hp'` of `own_moved`), the location concerns no other thread (`free`) and no publisher (not detached).  `N R E M`: whatever
the step writes to the counters, which nobody's assertion but `reg` reads.  `hJ`: inside the lock with the flag false `t`
may rewrite the job list. -/
theorem Inv.relocate {s s' : State} (h : Inv s) {t k : Nat} {p p' : PC} {c' : Loc} {J : Option (List Nat)} {N : Nat}
    {R E : Nat → Nat} {M : Nat → Bool}
    (hs' : s' = { s with jobs := J, nextK := N, ran := R, errs := E, removed := M,
                         loc := fun j => if j = k then c' else s.loc j })
    (hJ : J = s.jobs ∨ s.lock = some t ∧ s.go = false ∧ (lst J).Nodup)
    (ht : Thr s t p) (hc : (p.hand = (s.loc k).heldBy.map fun x => (k, x.2)) ∧ (s.loc k).free t ∧ (s.loc k).isDetached = false)
    (hc' : (p'.hand = c'.heldBy.map fun x => (k, x.2)) ∧ c'.free t ∧ c'.isDetached = false)
    (self : (∀ j e, p'.hand = some (j, e) ↔ (s'.loc j).heldBy = some (t, e)) → Thr s' t p')
    (hnw : p'.isWinner = false) (park : p'.parked = none) (reg : ∀ j, Reg s' j (s'.loc j)) : Inv (s'.setPc t p') := by
  subst hs'
  have self := self (own_moved (s := s) { ht with } hc.1 hc'.1 hc'.2.1)
  refine Inv.setPc (winPC_setPc _ (self.not_winner hnw)) (fun u hu => Thr.relocate s.loc rfl ?_ hu hc.2.1 hc'.2.1) self
    (Win.relocate s.loc rfl { h.win with liveJ := ?_ } (hc'.2.2.trans hc.2.2.symm)) (fun x hx => by rw [park] at hx; cases hx)
    { h.toGlob with nodupQ := ?_ } reg
  · rcases hJ with rfl | ⟨hl, hg, _⟩
    · exact { h.thr u with }
    · exact { h.others hu (.inl ⟨hl, hg⟩) s.waiting J with }
  · rcases hJ with rfl | ⟨_, hg, _⟩
    · exact h.win.liveJ
    · exact fun hg' => nomatch hg.symm.trans hg'
  · rcases hJ with rfl | ⟨_, _, hn⟩
    · exact h.nodupQ
    · exact hn

theorem Inv.register {s : State} (h : Inv s) {t k : Nat} (ht : Thr s t (.t4a k)) {J : List Nat}
    (hJ : J = lst s.jobs ++ [k]) :
    Inv ({ s with jobs := some J, loc := fun j => if j = k then .queued else s.loc j }.setPc t (.t5 k)) := by
  have hk := Loc.heldBy_false.mp ((ht.own k false).mp rfl)
  have rk := h.reg k; rw [hk] at rk
  have hkJ : k ∉ lst s.jobs := fun hm => nomatch rk.locQ.mp hm
  have nd : J.Nodup := hJ ▸ List.nodup_append.mpr ⟨h.nodupQ, List.pairwise_singleton _ k, fun a ha b hb => by
    cases List.mem_singleton.mp hb; exact fun hab => hkJ (hab ▸ ha)⟩
  exact h.relocate rfl (.inr ⟨ht.mutex.mp rfl, ht.preSet rfl, nd⟩) ht
    (by rw [hk]; exact ⟨rfl, rfl, rfl⟩) ⟨rfl, trivial, rfl⟩ (fun own => { ht with readJ := nofun, inJ := nofun, own := own }) rfl rfl
    (Reg.update { rk with locQ := iff_of_true (hJ ▸ List.mem_append_right _ (List.mem_singleton_self k)) rfl } fun j hj =>
      { h.reg j with
        locQ := ((hJ ▸ List.mem_append : j ∈ J ↔ _).trans (or_iff_left fun hm => hj (List.mem_singleton.mp hm))).trans (h.reg j).locQ })

theorem afterStoppers_cases (js ws : List Nat) :
    (ws = [] ∧ js = [] ∧ afterStoppers js ws = .idle .goSelf) ∨
    (ws = [] ∧ js ≠ [] ∧ afterStoppers js ws = .g10 js) ∨
    (ws ≠ [] ∧ afterStoppers js ws = .g9 js ws) := by
  unfold afterStoppers afterJob; split <;> (try split) <;> simp_all

theorem setPcG_winner {s : State} {t : Nat} {p : PC} (hw : s.winner = some t) (hp : p.isWinner = true) :
    s.setPcG t p = s.setPc t p := by
  unfold State.setPcG; rw [if_pos hp, ← hw]; rfl

/-- `afterStoppers js ws` is `g9 js ws` with the empty loops skipped: there the publisher relies on what it relies on at
`g7` (outside the lock, nothing read, nothing in hand), and its view is that of `g9 js ws`. -/
theorem Inv.loop {s : State} {t : Nat} {js ws : List Nat} (hw : s.winner = some t)
    (oth : ∀ u, u ≠ t → Thr s u (s.pc u)) (ht : Thr s t (.g7 js)) (hW : Win s (.g9 js ws))
    (glob : Glob s) (reg : ∀ j, Reg s j (s.loc j)) : Inv (s.setPcG t (afterStoppers js ws)) := by
  rcases afterStoppers_cases js ws with ⟨rfl, rfl, h3⟩ | ⟨rfl, hjs, h3⟩ | ⟨hws, h3⟩ <;> rw [h3]
  · show Inv ({ s with winner := none }.setPc t _)
    exact Inv.setPc rfl
      (fun u hu => { oth u hu with
        win := iff_of_false (fun hq => hu (Option.some.inj (hw ▸ (oth u hu).win.mp hq)).symm) nofun })
      { ht with sawGo := nofun, win := iff_of_false nofun nofun } { hW with } nofun { glob with } (fun j => { reg j with })
  all_goals
    rw [setPcG_winner hw rfl]
    exact Inv.setPc (winPC_self _ hw) oth { ht with loopNe := fun l hl => by cases hl; assumption } { hW with } nofun glob reg

theorem Inv.reg_run {s : State} (h : Inv s) {k t : Nat} (hk : s.loc k = .inThen t ∨ s.loc k = .detached)
    (hg : s.go = true) {r : Bool} (hr : s.raises k = r) :
    ∀ j, Reg { s with ran := fun j => if j = k then s.ran j + 1 else s.ran j,
                      loc := fun j => if j = k then (if r then .erring t else .done) else s.loc j }
      j (if j = k then (if r then .erring t else .done) else s.loc j) := by
  refine Reg.update ?_ fun j hj => { h.reg j with ranLoc := (if_neg hj).trans (h.reg j).ranLoc }
  have rk := h.reg k
  cases r
  · rcases hk with hk | hk <;> rw [hk] at rk <;> exact { rk with
      ranLoc := (if_pos rfl).trans (congrArg (· + 1) rk.ranLoc)
      errLoc := by rw [hr]; exact rk.errLoc
      ranGo := fun _ => hg }
  · rcases hk with hk | hk <;> rw [hk] at rk <;> exact { rk with
      ranLoc := (if_pos rfl).trans (congrArg (· + 1) rk.ranLoc)
      ranGo := fun _ => hg
      errRaises := fun _ => hr }

theorem Inv.reg_handled {s : State} (h : Inv s) {k t : Nat} (hk : s.loc k = .erring t) :
    ∀ j, Reg { s with errs := fun j => if j = k then s.errs j + 1 else s.errs j, loc := fun j => if j = k then .done else s.loc j }
      j (if j = k then .done else s.loc j) := by
  refine Reg.update ?_ fun j hj => { h.reg j with errLoc := (if_neg hj).trans (h.reg j).errLoc }
  have rk := h.reg k; rw [hk] at rk
  exact { rk with
    errRaises := nofun
    errLoc := by
      show (if k = k then s.errs k + 1 else _) = _
      rw [if_pos rfl, rk.errLoc, if_neg (fun h => nomatch h.1), if_pos ⟨rfl, rk.errRaises rfl⟩] }

theorem step_frame {s s' : State} {t : Nat} {l : Label} (hs : step s t = some (s', l)) :
    (∀ u, u ≠ t → s'.pc u = s.pc u) ∧ (s'.go = s.go ∨ s.pc t = .g3 ∧ s'.go = true) ∧
    (∀ k, s.removed k = true → s'.removed k = true) ∧ (∀ k, l = .cb k → (s.pc t).sawGo = true) := by
  cases hp : s.pc t <;> simp only [step, hp] at hs
  case g3 => cases hs; exact ⟨fun u hu => if_neg hu, .inr ⟨rfl, rfl⟩, fun _ h => h, nofun⟩
  case r5 k =>
    cases hs
    exact ⟨fun u hu => if_neg hu, .inl rfl, fun j h => by show (if j = k then true else _) = true; split; rfl; exact h, nofun⟩
  case g9 _ l | g10 l => cases l <;> cases hs; exact ⟨fun u hu => if_neg hu, .inl rfl, fun _ h => h, fun _ hl => by cases hl <;> rfl⟩
  all_goals (try split at hs) <;> cases hs
  all_goals exact ⟨fun u hu => if_neg hu, .inl rfl, fun _ h => h, fun _ hl => by cases hl <;> rfl⟩

theorem call_frame {s s' : State} {t : Nat} {op : Op} (hc : call s t op = some s') :
    (∀ u, u ≠ t → s'.pc u = s.pc u) ∧ s'.go = s.go := by
  unfold call at hc
  split at hc
  · cases op <;> simp only at hc <;> (try split at hc) <;> cases hc <;> exact ⟨fun u hu => if_neg hu, rfl⟩
  · cases hc

/-- reduce `step s t = some (s', l)` at a known pc -/
macro "step_at" hp:ident hs:ident : tactic => `(tactic| (
  unfold step at $hs:ident
  rw [$hp:ident] at $hs:ident
  simp only [] at $hs:ident))

theorem inv_step {s s' : State} {t : Nat} {l : Label} (h : Inv s) (hs : step s t = some (s', l)) : Inv s' := by
  have ht := h.thr t
  cases hp : s.pc t <;> rw [hp] at ht <;> step_at hp hs
  case idle => cases hs
  case w0 | g0 | r0 k =>
    cases hs
    split
    · next hg => exact h.goto { ht with sawGo := fun _ => hg, notNever := nofun } rfl nofun
    · exact h.goto { ht with } rfl nofun
  case w1 | g1 | t1 k | r1 k =>
    split at hs <;> cases hs
    next hl => exact h.lock (.inl ⟨hl, rfl⟩) { ht with mutex := iff_of_true rfl rfl } rfl nofun
  case w2 | g2 | t2 k | r2 k =>
    cases hs
    cases hg : s.go <;> simp only [Bool.false_eq_true, if_false, if_true]
    · exact h.goto { ht with preSet := fun _ => hg } rfl nofun
    · exact h.goto { ht with sawGo := fun _ => hg, notNever := nofun } rfl nofun
  case w2r | t6 k | r6 =>
    cases hs
    exact h.lock (.inr ⟨ht.mutex.mp rfl, rfl⟩) { ht with mutex := ⟨nofun, nofun⟩ } rfl nofun
  case w3 =>
    cases hs
    exact Inv.setPc (winPC_setPc _ (ht.not_winner rfl)) (fun u _ => { h.thr u with }) { ht with } { h.win with } nofun
      { h.toGlob with } (fun k => { h.reg k with })
  case w4 x =>
    cases hs
    cases hw : truthy s.waiting <;> simp only [Bool.false_eq_true, if_false, if_true]
    · exact h.goto { ht with readW := fun l hl => by cases hl; exact lst_eq_nil_of_falsy hw } rfl nofun
    · exact h.goto { ht with } rfl nofun
  case w5n x =>
    cases hs
    exact h.enqueue { ht with readW := nofun } (by rw [ht.readW [] rfl]; rfl)
  case w5a x =>
    cases hs
    exact h.enqueue ht rfl
  case w6 x =>
    cases hs
    exact h.lock (.inr ⟨ht.mutex.mp rfl, rfl⟩) { ht with mutex := ⟨nofun, nofun⟩, preSet := nofun } rfl (hp ▸ fun _ hx => hx)
  case w7 x =>
    split at hs <;> cases hs
    next hx => exact h.goto { ht with sawGo := fun _ => h.unl x hx } rfl nofun
  case g2r =>
    cases hs
    exact h.lock (.inr ⟨ht.mutex.mp rfl, rfl⟩) { ht with mutex := ⟨nofun, nofun⟩, sawGo := nofun } rfl nofun
  case g3 =>
    cases hs
    have hl := ht.mutex.mp rfl
    have hg := ht.preSet rfl
    have hnw : s.winner = none := by
      cases hw : s.winner with
      | none => rfl
      | some g => have := (h.thr g).sawGo (PC.isWinner_sawGo _ ((h.thr g).win.mpr hw)); rw [hg] at this; cases this
    have hW := h.win; rw [State.winPC, hnw] at hW
    show Inv ({ s with go := true, winner := some t }.setPc t .g4)
    exact Inv.setPc (winPC_self _ rfl)
      (fun u hu => { h.thr u with
        sawGo := fun _ => rfl
        preSet := fun hps => by
          have := (h.thr u).mutex.mp (PC.preSet_holds _ hps)
          rw [hl] at this; exact absurd (Option.some.inj this).symm hu
        win := iff_of_false (fun hq => nomatch hnw.symm.trans ((h.thr u).win.mp hq)) fun hw => hu (Option.some.inj hw).symm })
      { ht with sawGo := fun _ => rfl, preSet := nofun, win := iff_of_true rfl rfl, notNever := nofun }
      { hW with liveW := fun _ => nofun, liveJ := fun _ => nofun }
      nofun { h.toGlob with unl := fun _ _ => rfl, nev := fun hn => by rw [ht.notNever rfl] at hn; cases hn }
      (fun k => { h.reg k with ranGo := fun _ => rfl })
  case g4 =>
    cases hs
    have ⟨hw, hW⟩ := h.winAt hp rfl
    exact h.move (winPC_self _ hw) { hW with }
      { ht with mutex := ⟨nofun, nofun⟩ } (.inr (.inr ⟨ht.mutex.mp rfl, rfl⟩)) nofun
  case g5 =>
    cases hs
    have ⟨hw, hW⟩ := h.winAt hp rfl
    exact h.move (L := s.lock) (winPC_self _ hw) { hW with } { ht with readJ := fun l hl => by cases hl; rfl } (.inl rfl) nofun
  case g6 js =>
    cases hs
    have ⟨hw, hW⟩ := h.winAt hp rfl
    have hjs := ht.readJ js rfl
    have hq : ∀ j, j ∈ js → s.loc j = .queued := fun j hj => Loc.isQueued_iff.mp ((h.reg j).locQ.mp (hjs ▸ hj))
    refine Inv.setPc (winPC_self _ hw) (fun u hu => ?_) { ht with readJ := nofun, inJ := nofun, own := fun j e => iff_of_false nofun ?_ }
      { hW with liveJ := fun _ _ => rfl, locD := fun j => ?_, nodupD := hjs ▸ h.nodupQ } nofun
      { h.toGlob with nodupQ := List.nodup_nil } (fun j => ?_)
    · refine { h.others hu (.inr hw) s.waiting none with own := fun j e => ?_ }
      show _ ↔ (if j ∈ js then Loc.detached else s.loc j).heldBy = _
      split
      · next hj => exact iff_of_false (fun hq' => by have := ((h.thr u).own j e).mp hq'; rw [hq j hj] at this; cases this) nofun
      · exact (h.thr u).own j e
    · show (if j ∈ js then Loc.detached else s.loc j).heldBy ≠ _
      split
      · nofun
      · exact fun hq' => nomatch (ht.own j e).mpr hq'
    · show (if j ∈ js then Loc.detached else s.loc j).isDetached = true ↔ _
      split
      · next hj => exact iff_of_true rfl hj
      · next hj => exact iff_of_false (fun hd => nomatch (hW.locD j).mp hd) hj
    · show Reg _ j (if j ∈ js then Loc.detached else s.loc j)
      split
      · next hj =>
        have rj := h.reg j; rw [hq j hj] at rj
        exact { rj with locQ := iff_of_false nofun nofun, ranGo := fun _ => ht.sawGo rfl }
      · next hj => exact { h.reg j with locQ := iff_of_false nofun fun hq' => hj (hjs ▸ (h.reg j).locQ.mpr hq') }
  case g7 js =>
    cases hs
    have ⟨hw, hW⟩ := h.winAt hp rfl
    exact h.move (L := s.lock) (winPC_self _ hw)
      { hW with noLost := fun u x hx => (hW.noLost u x hx).imp_right fun h => .inl (h.resolve_right nofun) }
      { ht with readW := fun l hl => by cases hl; rfl } (.inl rfl) nofun
  case g8 js ws =>
    cases hs
    have ⟨hw, hW⟩ := h.winAt hp rfl
    exact Inv.loop hw (fun u hu => { h.others hu (.inr hw) none s.jobs with }) { ht with readW := nofun }
      { hW with
        liveW := fun _ _ => rfl
        noLost := fun u x hx => (hW.noLost u x hx).imp_right fun h => .inr (h.elim (ht.readW ws rfl ▸ ·) id) }
      { h.toGlob with } (fun j => { h.reg j with })
  case g9 js ws =>
    cases ws with
    | nil => cases hs
    | cons x ws' =>
      cases hs
      have ⟨hw, hW⟩ := h.winAt hp rfl
      have hg := ht.sawGo rfl
      refine Inv.loop hw (fun u _ => { h.thr u with }) { ht with loopNe := nofun } { hW with noLost := fun u y hy => ?_ }
        { h.toGlob with unl := fun _ _ => hg } (fun j => { h.reg j with })
      show (if y = x then true else s.unlocked y) = true ∨ _
      split
      · exact .inl rfl
      · next hyx =>
        rcases hW.noLost u y hy with h1 | h1 | h1
        · exact .inl h1
        · rw [hW.liveW hg rfl] at h1; cases h1
        · exact .inr (.inr ((List.mem_cons.mp h1).resolve_left hyx))
  case g10 js =>
    cases js with
    | nil => cases hs
    | cons k js' =>
      cases hs
      have ⟨hw, hW⟩ := h.winAt hp rfl
      have hg := ht.sawGo rfl
      have hk := Loc.isDetached_iff.mp ((hW.locD k).mpr List.mem_cons_self)
      have hnd := List.nodup_cons.mp hW.nodupD
      have locD : ∀ c' : Loc, c'.isDetached = false → ∀ j, (if j = k then c' else s.loc j).isDetached = true ↔ j ∈ js' :=
        fun c' hc' j => by
          split
          · next hj => rw [hc', hj]; exact iff_of_false nofun hnd.1
          · next hj => exact (hW.locD j).trans (List.mem_cons.trans (or_iff_right hj))
      cases hr : s.raises k <;> simp only [Bool.false_eq_true, if_false, if_true]
      · exact Inv.loop (ws := []) hw (fun u hu => Thr.relocate s.loc rfl { h.thr u with } hu (by rw [hk]; trivial) trivial)
          { ht with loopNe := nofun, own := own_moved (s := s) (c := .detached) (c' := .done) ht rfl rfl trivial }
          { hW with locD := locD .done rfl, nodupD := hnd.2 } { h.toGlob with } (h.reg_run (t := t) (.inr hk) hg hr)
      · -- `by exact hw`: elaborated only after the rewrite has matched its left side, which fixes the state `hw` is about
        rw [setPcG_winner (by exact hw) rfl]
        exact Inv.setPc (winPC_self _ hw) (fun u hu => Thr.relocate s.loc rfl { h.thr u with } hu (by rw [hk]; trivial) rfl)
          { ht with loopNe := nofun, own := own_moved (s := s) (c := .detached) (c' := .erring t) ht rfl rfl rfl }
          { hW with locD := locD (.erring t) rfl, nodupD := hnd.2 } nofun { h.toGlob with } (h.reg_run (.inr hk) hg hr)
  case g11 k js =>
    cases hs
    have ⟨hw, hW⟩ := h.winAt hp rfl
    have hk := Loc.heldBy_true.mp ((ht.own k true).mp rfl)
    exact Inv.loop (ws := []) hw
      (fun u hu => Thr.relocate s.loc rfl { h.thr u with } hu (by rw [hk]; rfl) trivial)
      { ht with own := own_moved (s := s) (c := .erring t) (c' := .done) ht rfl rfl trivial }
      (Win.relocate s.loc rfl { hW with } (by rw [hk]; rfl)) { h.toGlob with } (h.reg_handled hk)
  case t3 k =>
    cases hs
    cases hw : truthy s.jobs <;> simp only [Bool.false_eq_true, if_false, if_true]
    · exact h.goto { ht with readJ := fun l hl => by cases hl; exact lst_eq_nil_of_falsy hw } rfl nofun
    · exact h.goto { ht with } rfl nofun
  case t4n k =>
    cases hs
    exact h.register { ht with readJ := nofun } (by rw [ht.readJ [] rfl]; rfl)
  case t4a k =>
    cases hs
    exact h.register ht rfl
  case t5 k =>
    cases hs
    exact h.lock (.inr ⟨ht.mutex.mp rfl, rfl⟩) { ht with mutex := ⟨nofun, nofun⟩, preSet := nofun } rfl nofun
  case t7 k =>
    cases hs
    have hk := Loc.heldBy_false.mp ((ht.own k false).mp rfl)
    cases hr : s.raises k <;> simp only [Bool.false_eq_true, if_false, if_true] <;>
      exact h.relocate rfl (.inl rfl) ht (by rw [hk]; exact ⟨rfl, rfl, rfl⟩) ⟨rfl, by simp [Loc.free], rfl⟩
        (fun own => { ht with sawGo := fun _ => ht.sawGo rfl, own := own }) rfl rfl (h.reg_run (.inl hk) (ht.sawGo rfl) hr)
  case t8 k =>
    cases hs
    have hk := Loc.heldBy_true.mp ((ht.own k true).mp rfl)
    exact h.relocate rfl (.inl rfl) ht (by rw [hk]; exact ⟨rfl, rfl, rfl⟩) ⟨rfl, trivial, rfl⟩
      (fun own => { ht with sawGo := nofun, own := own }) rfl rfl (h.reg_handled hk)
  case r3 k =>
    cases hs
    cases hw : truthy s.jobs <;> simp only [Bool.false_eq_true, if_false, if_true]
    · exact h.goto { ht with preSet := nofun } rfl nofun
    · exact h.goto { ht with } rfl nofun
  case r4 k =>
    cases hs
    by_cases hk : k ∈ lst s.jobs <;> simp only [hk, if_false, if_true]
    · exact h.goto { ht with inJ := fun k' hk' => by cases hk'; exact hk } rfl nofun
    · exact h.goto { ht with preSet := nofun } rfl nofun
  case r5 k =>
    cases hs
    have hk := Loc.isQueued_iff.mp ((h.reg k).locQ.mp (ht.inJ k rfl))
    have rk := h.reg k; rw [hk] at rk
    exact h.relocate rfl (.inr ⟨ht.mutex.mp rfl, ht.preSet rfl, h.nodupQ.erase k⟩) ht (by rw [hk]; exact ⟨rfl, trivial, rfl⟩)
      ⟨rfl, trivial, rfl⟩ (fun own => { ht with preSet := nofun, readJ := nofun, inJ := nofun, own := own }) rfl rfl
      (Reg.update
        { rk with
          locQ := iff_of_false (fun hm => (h.nodupQ.mem_erase_iff.mp hm).1 rfl) nofun
          remLoc := iff_of_true (if_pos rfl) rfl }
        fun j hj => { h.reg j with
          locQ := (List.mem_erase_of_ne hj).trans (h.reg j).locQ
          remLoc := by show (if j = k then _ else _) = _ ↔ _; rw [if_neg hj]; exact (h.reg j).remLoc })
  case b0 =>
    cases hs
    cases hg : s.go
    · exact h.goto { ht with } rfl nofun
    · exact h.goto { ht with sawGo := fun _ => hg } rfl nofun

theorem inv_call {s s' : State} {t : Nat} {op : Op} (h : Inv s) (hc : call s t op = some s') : Inv s' := by
  have ht := h.thr t
  unfold call at hc
  split at hc
  next r hp =>
    rw [hp] at ht
    cases op <;> simp only at hc
    case wait | bool | remove k => cases hc; exact h.goto { ht with sawGo := nofun } rfl nofun
    case go =>
      split at hc <;> cases hc
      · exact h.goto { ht with sawGo := nofun } rfl nofun
      · next hn => exact h.goto { ht with sawGo := nofun, notNever := fun _ => (Bool.not_eq_true _).mp hn } rfl nofun
    case then_ =>
      cases hc
      have hk := Loc.isUnborn_iff.mp ((h.reg s.nextK).fresh.mp (Nat.le_refl _))
      have rk := h.reg s.nextK; rw [hk] at rk
      exact h.relocate rfl (.inl rfl) ht (by rw [hk]; exact ⟨rfl, trivial, rfl⟩) ⟨rfl, rfl, rfl⟩
        (fun own => { ht with sawGo := nofun, own := own }) rfl rfl
        (Reg.update { rk with fresh := iff_of_false (Nat.not_succ_le_self _) nofun } fun j hj => { h.reg j with
          fresh := Iff.trans ⟨Nat.le_of_succ_le, fun hle => Nat.lt_of_le_of_ne hle (Ne.symm hj)⟩ (h.reg j).fresh })
  · cases hc

theorem reach_inv {s : State} (h : sys.Reach s) : Inv s := by
  refine Sys.Reach.invariant sys (P := Inv) ?_ ?_ ?_ h
  · rintro s ⟨nv, rs, rfl⟩; exact inv_init nv rs
  · rintro s s' hi ⟨t, op, hc⟩; exact inv_call hi hc
  · intro s s' t l hi hs; exact inv_step hi hs

end MoThreads.SignalCore
