/-
  M5 (ThreadTree): the ranking function: every system step strictly decreases `rank N`, so every run without new API
  calls has bounded length under any scheduler (L2 for C10, C11, C12).  `Tree` supplies what the weights need: children
  lists and the registry hold distinct ids, children are younger than their parent.
-/
import MoThreads.Proofs.TreeRankDefs
namespace MoThreads.ThreadTree
open MoThreads

theorem Tree.children_lt {N : Nat} {s : State} (hk : Tree s) (hN : s.nextId ≤ N) (u : Nat) : lsum (pw N) (s.children u) + 1 ≤ pw N u :=
  lsum_pw_children (hk.nodup u) fun c hc => by have := hk.lt u c (hk.sub u c hc); omega

theorem allOrder_lt {s : State} (h : Inv s) (hr : Tree s) {t : Nat} (ht : t ∈ s.allOrder) : t < s.nextId :=
  lt_nextId h fun hab => by have := hr.unreg t (by rw [hab]; rfl); rw [(hr.all t).mp ht] at this; cases this

theorem rank_lt {N : Nat} {s s' : State} {t : Nat} {p' : Phase} {c' : Call} (ht : t < N)
    (ho : ∀ u, u ≠ t → s'.phase u = s.phase u ∧ s'.call u = s.call u) (he : s'.everChild = s.everChild)
    (hp : s'.phase t = p') (hc : s'.call t = c')
    (hd : wTh N t p' c' (s.everChild t) < wTh N t (s.phase t) (s.call t) (s.everChild t)) : rank N s' < rank N s := by
  unfold rank
  refine sumTo_one ht (fun u hu => ?_) ?_
  · rw [he, (ho u hu).1, (ho u hu).2]
  · rw [he, hp, hc]; exact hd

theorem stepStop_dec {N : Nat} {s s' : State} {t : Nat} {w : List SAct} {k : List SAct → Call} {l : Label} (hk : Tree s) (hN : s.nextId ≤ N)
    (hs : stepStop s t w k = some (s', l)) :
      s'.phase = s.phase ∧ s'.everChild = s.everChild ∧ ∃ w', s'.call = upd s.call t (k w') ∧ wS N w' < wS N w := by
  unfold stepStop at hs
  cases w with
  | nil => cases hs
  | cons a r =>
    cases a with
    | visit u =>
      cases hs
      refine ⟨rfl, rfl, _, rfl, ?_⟩
      have := hk.children_lt hN u
      simp only [wS_append, wS_visits, wS, wSA]
      omega
    | fire u =>
      cases hs
      refine ⟨rfl, rfl, _, rfl, ?_⟩
      simp only [wS, wSA]; omega

theorem stepJoin_dec {N : Nat} {s s' : State} {t : Nat} {top : List Nat} {w : List JAct} {tl : Option Nat} {raised : List Nat}
    {all : Bool} {k : List JAct → List Nat → Call} {l : Label} (hk : Tree s) (hN : s.nextId ≤ N)
    (hs : stepJoin s t top w tl raised all k = some (s', l)) :
    s'.phase = s.phase ∧ s'.everChild = s.everChild ∧ ∃ w' r', s'.call = upd s.call t (k w' r') ∧ wJ N w' < wJ N w := by
  unfold stepJoin at hs
  cases w with
  | nil => cases hs
  | cons a r =>
    cases a with
    | start u =>
      cases hs
      refine ⟨rfl, rfl, _, _, rfl, ?_⟩
      have := hk.children_lt hN u
      simp only [wJ_append, wJ_starts, wJ, wJA]
      omega
    | mark u | unreg u | finish u cs => cases hs; exact ⟨rfl, rfl, _, _, rfl, by simp only [wJ, wJA]; omega⟩
    | wait u =>
      simp only at hs
      split at hs
      · cases hs; exact ⟨rfl, rfl, _, _, rfl, by simp only [wJ, wJA]; omega⟩
      · split at hs
        · cases hs
          refine ⟨rfl, rfl, _, _, rfl, ?_⟩
          have := wJ_filter_le N (fun x => decide (x ≠ JAct.unreg u)) r
          simp only [wJ, wJA]; omega
        · cases hs

theorem rank_step {N : Nat} {s s' : State} {t : Nat} {l : Label} (h : Inv s) (hk : Tree s) (hN : s.nextId ≤ N)
    (hs : step s t = some (s', l)) : rank N s' < rank N s := by
  have ht : t < N := by
    have : s.phase t ≠ .absent := by intro hab; unfold step at hs; rw [hab] at hs; cases hs
    have := lt_nextId h this; omega
  have hS : ∀ {w : List SAct} {k : List SAct → Call}, stepStop s t w k = some (s', l) → s.call t = k w →
      (∀ w1 w2, wS N w1 < wS N w2 → wTh N t (s.phase t) (k w1) (s.everChild t) < wTh N t (s.phase t) (k w2) (s.everChild t)) →
        rank N s' < rank N s := by
    intro w k hss hc hm
    obtain ⟨hp, he, w', hc', hd⟩ := stepStop_dec (N := N) hk hN hss
    exact rank_lt ht (fun u hu => ⟨by rw [hp], by rw [hc', upd_other _ _ hu]⟩) he (by rw [hp]) (by rw [hc', upd_same])
      (by rw [hc]; exact hm _ _ hd)
  have hJ : ∀ {top w tl raised all} {k : List JAct → List Nat → Call} {r0 : List Nat}, stepJoin s t top w tl raised all k = some (s', l) →
      s.call t = k w r0 →
      (∀ w1 r1 w2 r2, wJ N w1 < wJ N w2 → wTh N t (s.phase t) (k w1 r1) (s.everChild t) < wTh N t (s.phase t) (k w2 r2) (s.everChild t)) →
        rank N s' < rank N s := by
    intro top w tl raised all k r0 hss hc hm
    obtain ⟨hp, he, w', r', hc', hd⟩ := stepJoin_dec (N := N) hk hN hss
    exact rank_lt ht (fun u hu => ⟨by rw [hp], by rw [hc', upd_other _ _ hu]⟩) he (by rw [hp]) (by rw [hc', upd_same])
      (by rw [hc]; exact hm _ _ _ _ hd)
  have ph : ∀ {q ch st ia ao}, wTh N t q (s.call t) (s.everChild t) < wTh N t (s.phase t) (s.call t) (s.everChild t) →
      rank N { s with phase := upd s.phase t q, children := ch, stopped := st, inAll := ia, allOrder := ao } < rank N s := fun hd =>
    rank_lt ht (fun _ hu => ⟨upd_other _ _ hu, rfl⟩) rfl (upd_same ..) rfl hd
  have pc : ∀ {q c'}, wTh N t q c' (s.everChild t) < wTh N t (s.phase t) (s.call t) (s.everChild t) →
      rank N { s with phase := upd s.phase t q, call := upd s.call t c' } < rank N s := fun hd =>
    rank_lt ht (fun _ hu => ⟨upd_other _ _ hu, upd_other _ _ hu⟩) rfl (upd_same ..) (upd_same ..) hd
  have cl : ∀ {c' ps jn ia ao}, wTh N t (s.phase t) c' (s.everChild t) < wTh N t (s.phase t) (s.call t) (s.everChild t) →
      rank N { s with call := upd s.call t c', pstop := ps, joiner := jn, inAll := ia, allOrder := ao } < rank N s := fun hd =>
    rank_lt ht (fun _ hu => ⟨rfl, upd_other _ _ hu⟩) rfl rfl (upd_same ..) hd
  unfold step at hs
  cases hph : s.phase t <;> rw [hph] at hs <;> simp only at hs
  case absent | dead => cases hs
  case created | peek | fin4 | fin5 | fin6 => cases hs; refine ph ?_; simp only [hph, wTh]; omega
  case fin1 =>
    cases hs; refine pc ?_
    have := hk.children_lt hN t
    simp only [hph, wTh, wStopping, wS_visits]; omega
  case linger =>
    split at hs
    · cases hs; refine ph ?_; simp only [hph, wTh]; omega
    · split at hs
      · split at hs <;> (cases hs; refine ph ?_; simp only [hph, wTh]; omega)
      · cases hs
  case fin2 cs =>
    split at hs
    · rename_i hc
      cases hs; refine pc ?_
      simp only [hph, hc, wTh, wStopping, wJoining, wS, wJ_starts]; omega
    · rename_i hc
      exact hS hs hc (by intro w1 w2 hw; simp only [hph, wTh, wStopping]; omega)
    · cases hs
  case fin3 cs =>
    split at hs
    · rename_i hc
      cases hs; refine pc ?_
      simp only [hph, hc, wTh, wJoining, wJ]; omega
    · rename_i hc
      exact hJ hs hc (by intro w1 r1 w2 r2 hw; simp only [hph, wTh, wJoining]; omega)
    · cases hs
  case running =>
    cases hc : s.call t <;> simp only [hc] at hs
    case idle => cases hs
    case spawn c =>
      have hsc := h.spawnC t c hc
      split at hs
      · -- start(): the spawner gives up at least 2, the new thread gains the 1 of `created`
        cases hs
        have hct : t ≠ c := by intro he; subst he; rw [hph] at hsc; cases hsc.1
        have hcN : c < N := by omega
        unfold rank
        refine sumTo_two ht hcN hct (fun u hu1 hu2 => by simp [upd, hu1, hu2]) ?_
        simp only [upd, if_true, hct, Ne.symm hct, if_false, hph, hsc.1, hc, wTh]
        generalize wCall N (s.everChild c) (s.call c) = X
        simp only [wCall]
        split <;> omega
      · -- registration: `spawn c` weighs 3 before `c` is in the ghost list and 2 after
        rename_i hnin
        cases hs
        have hne : c ∉ s.everChild t := by
          intro hin
          rcases h.ever t c hin with h1 | h1
          · exact hnin (Or.inl h1)
          · have := (h.stP c).mp h1
            rw [hsc.1] at this; cases this
        unfold rank
        refine sumTo_one ht (fun u hu => by simp only [upd, hu, if_false]) ?_
        simp only [upd, if_true, hph, hc, wTh, wCall, hne, if_false, List.mem_append, List.mem_singleton, or_true]
        omega
    case releasing | m0 => cases hs; refine cl ?_; simp only [hph, hc, wTh, wCall]; omega
    case stopping | mS | mRS =>
      split at hs
      · cases hs; refine cl ?_; simp only [hph, hc, wTh, wCall, wS, wJ_starts]; omega
      · exact hS hs hc (by intro w1 w2 hw; simp only [hph, wTh, wCall]; omega)
    case joining | mJ | mRJ =>
      split at hs
      · cases hs; refine cl ?_; simp only [hph, hc, wTh, wCall, wJ]; omega
      · exact hJ hs hc (by intro w1 r1 w2 r2 hw; simp only [hph, wTh, wCall]; omega)
    case m1 =>
      cases hs; refine cl ?_
      have := lsum_pw_all (N := N) (hk.nodup t) (fun c hc => by have := hk.lt t c (hk.sub t c hc); omega)
      simp only [hph, hc, wTh, wCall, wS_visits, lsum_reverse, PB]; omega
    case m2 =>
      cases hs; refine cl ?_
      have := lsum_pw_all (N := N) (hk.allND.erase t) (fun c hc => by
        have := allOrder_lt h hk (List.mem_of_mem_erase hc); omega)
      simp only [hph, hc, wTh, wCall, wS_visits, PB]; omega

def RankOK (N : Nat) (s : State) : Prop := Inv s ∧ Tree s ∧ s.nextId ≤ N

theorem rankOK_of_reach {s : State} (h : sys.Reach s) : RankOK s.nextId s :=
  ⟨reach_inv h, reach_tree h, Nat.le_refl _⟩

theorem inv_of_step {s s' : State} {t : Nat} {l : Label} (h : Inv s) (hs : step s t = some (s', l)) : Inv s' := inv_step h hs

theorem run_length_le_rank {N : Nat} {s s' : State} {tr : List (Nat × Label)} (hP : RankOK N s) (r : sys.Run s tr s') :
    tr.length + rank N s' ≤ rank N s :=
  Sys.Run.length_le_rank_inv sys (rank N) (RankOK N)
    (fun _ _ _ _ hP hs => ⟨inv_step hP.1 hs, tree_step hP.1 hP.2.1 hs, (frame_step hs).2.2 ▸ hP.2.2⟩)
    (fun _ _ _ _ hP hs => rank_step hP.1 hP.2.1 hP.2.2 hs) r hP

def InStop (s : State) (t : Nat) : Prop := s.phase t = .running ∧ ((∃ w, s.call t = .stopping w) ∨ s.call t = .idle .done)

theorem inStop_step {s s' : State} {t u : Nat} {l : Label} (h : Inv s) (hq : InStop s t) (hs : step s u = some (s', l)) : InStop s' t := by
  have f := (frame_step hs).1
  obtain ⟨hph, hc⟩ := hq
  by_cases hut : t = u
  · subst hut
    unfold step at hs; rw [hph] at hs
    rcases hc with ⟨w, hc⟩ | hc <;> simp only [hc] at hs
    · split at hs
      · cases hs; exact ⟨hph, Or.inr (upd_same ..)⟩
      · obtain ⟨w', ps, rfl, _⟩ := stepStop_eq hs
        exact ⟨hph, Or.inl ⟨w', upd_same ..⟩⟩
    · cases hs
  · exact ⟨by rw [f.phase_eq h hut (by rw [hph]; nofun)]; exact hph, by rw [f.cal t hut]; exact hc⟩

theorem inStop_run {s s' : State} {t : Nat} {tr : List (Nat × Label)} (h : Inv s) (hq : InStop s t)
    (r : sys.Run s tr s') : InStop s' t :=
  (r.preserves sys (P := fun x => Inv x ∧ InStop x t) (fun _ _ _ _ h hs => ⟨inv_step h.1 hs, inStop_step h.1 h.2 hs⟩) ⟨h, hq⟩).2

end MoThreads.ThreadTree
