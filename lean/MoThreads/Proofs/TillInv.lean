/-
  M6 (Till): list lemmas, the classifications of the two pcs and the inductive invariant.  `Inv` reads the daemon's pc only
  through classifications: from `h' : Inv { s with dpc := p }` for the literal pc `p` before a step (`Inv.at`),
  `{ h' with clockLocalNow := … }` proves `Inv { s with dpc := p', … }` and names the fields whose statement changes (`nofun`: vacuous
  at the new pc).  What is said about a creator is one structure per thread, `ThreadI`.
-/
import MoThreads.Model.Till
namespace MoThreads.Till

theorem perm_insertT (x : Timer) (l : List Timer) : (insertT x l).Perm (x :: l) := by
  induction l with
  | nil => exact .refl _
  | cons y ys ih =>
    simp only [insertT]; split
    · exact .refl _
    · exact (ih.cons y).trans (.swap x y ys)

theorem perm_sortT (l : List Timer) : (sortT l).Perm l := by
  induction l with
  | nil => exact .refl _
  | cons x xs ih => exact (perm_insertT x _).trans (ih.cons x)

def Sorted (l : List Timer) : Prop := l.Pairwise (fun a b => a.1 ≤ b.1)

theorem sorted_insertT {x : Timer} {l : List Timer} (h : Sorted l) : Sorted (insertT x l) := by
  induction l with
  | nil => simp [insertT, Sorted]
  | cons z zs ih =>
    have ⟨hz, hzs⟩ := List.pairwise_cons.mp h
    simp only [insertT]; split
    · exact List.pairwise_cons.mpr ⟨List.forall_mem_cons.mpr ⟨‹_›, fun a ha => Int.le_trans ‹_› (hz a ha)⟩, h⟩
    · exact List.pairwise_cons.mpr
        ⟨fun a ha => List.forall_mem_cons.mpr ⟨by omega, hz⟩ a ((perm_insertT x zs).mem_iff.mp ha), ih hzs⟩

theorem sorted_sortT (l : List Timer) : Sorted (sortT l) := by
  induction l with
  | nil => exact .nil
  | cons z zs ih => exact sorted_insertT ih

theorem split_append (n : Int) (l : List Timer) : dueOf n l ++ restOf n l = l := by
  induction l with
  | nil => rfl
  | cons x xs ih =>
    simp only [dueOf, restOf]; split
    · rfl
    · exact congrArg (x :: ·) ih

theorem dueOf_le {n : Int} {y : Timer} {l : List Timer} (h : y ∈ dueOf n l) : y.1 ≤ n := by
  induction l with
  | nil => cases h
  | cons z zs ih =>
    simp only [dueOf] at h; split at h
    · cases h
    · rcases List.mem_cons.mp h with rfl | h
      · omega
      · exact ih h

theorem restOf_gt {n : Int} {y : Timer} {l : List Timer} (hs : Sorted l) (h : y ∈ restOf n l) : n < y.1 := by
  induction l with
  | nil => cases h
  | cons z zs ih =>
    have ⟨hz, hzs⟩ := List.pairwise_cons.mp hs
    simp only [restOf] at h; split at h
    · rcases List.mem_cons.mp h with rfl | h
      · assumption
      · have := hz y h; omega
    · exact ih hzs h

theorem scan_mem (n : Int) (l : List Timer) :
    (dueOf n (sortT l) ++ restOf n (sortT l)).Perm l ∧ (∀ x, x ∈ dueOf n (sortT l) → x.1 ≤ n) ∧
    (∀ x, x ∈ restOf n (sortT l) → n < x.1) :=
  ⟨split_append n _ ▸ perm_sortT l, fun _ => dueOf_le, fun _ => restOf_gt (sorted_sortT l)⟩

/-- where a timer that is waiting to be fired is kept: `Till.new_timers`, the daemon's `sorted_timers`, or a local of the
daemon (`DPC.transit`) -/
abbrev Listed (nt so tr : List Timer) (x : Timer) : Prop := x ∈ nt ∨ x ∈ so ∨ x ∈ tr

section
variable {x a : Timer} {nt so tr nw due rest new : List Timer}

/-- the swap `new_timers, Till.new_timers = Till.new_timers, []` (:113, :153) -/
theorem Listed.swap : Listed [] so nt x ↔ Listed nt so [] x := by
  simp only [Listed, List.not_mem_nil, false_or, or_comm]

/-- the final drain (:151-154) takes the batch swapped out and then `sorted_timers` -/
theorem Listed.drain : Listed nt [] (nw ++ so) x ↔ Listed nt so nw x := by
  simp only [Listed, List.not_mem_nil, false_or, List.mem_append, or_comm]

/-- the split (:121-133) leaves in `sorted_timers` what is not due and hands the daemon what is -/
theorem Listed.scan (h : (due ++ rest).Perm (so ++ new)) : Listed nt rest due x ↔ Listed nt so new x :=
  or_congr_right (or_comm.trans (by simpa only [List.mem_append] using h.mem_iff))

theorem Listed.snoc : Listed (nt ++ [a]) so tr x ↔ x = a ∨ Listed nt so tr x := by
  simp only [Listed, List.mem_append, List.mem_singleton, or_assoc, or_left_comm]

theorem Listed.tail (h : Listed nt so (x :: rest) a) (ne : a.2 ≠ x.2) : Listed nt so rest a :=
  h.imp_right (.imp_right fun hm => (List.mem_cons.mp hm).resolve_left fun e => ne (e ▸ rfl))
end

theorem minI_eq_min (a b : Int) : minI a b = min a b := by unfold minI; omega

def DPC.holds : DPC → Bool
  | .d3 _ | .d3r .. | .d6 _ | .d6r .. | .f2 | .f2r _ => true
  | _ => false

def CPC.holds : CPC → Bool
  | .c3 .. | .c3b .. | .c4 .. => true
  | _ => false

/-- between the swap and the split: `sorted` still holds timers that were not due at the PREVIOUS scan -/
def DPC.midScan : DPC → Bool
  | .d6r .. | .d7 .. => true
  | _ => false

/-- daemon is inside a scan (after the swap): the clock equals `lastScan` -/
def DPC.scanning : DPC → Bool
  | .d6r .. | .d7 .. | .d8r _ | .d8w .. | .d9 _ => true
  | _ => false

def DPC.dueWork : DPC → Bool
  | .d8r _ | .d8w .. | .d9 _ => true
  | _ => false

/-- the global `enabled` has been rebound -/
def DPC.final : DPC → Bool
  | .f1 | .f2 | .f2r _ | .f3 _ | .done => true
  | _ => false

def DPC.drained : DPC → Bool
  | .f3 _ | .done => true
  | _ => false

def DPC.postSwap : DPC → Bool
  | .f2r _ | .f3 _ | .done => true
  | _ => false

/-- timers the daemon holds in local variables other than `sorted_timers` -/
def DPC.transit : DPC → List Timer
  | .d6r _ new | .d7 _ new => new
  | .d8r w | .d8w w _ | .d9 w => w
  | .f2r nw => nw
  | .f3 w => w
  | _ => []

/-- the clock value the daemon carries in a local -/
def DPC.clockLocal : DPC → Option Int
  | .d2 n | .d3 n | .d3r n _ | .d4 n _ | .d5 n | .d6 n | .d6r n _ | .d7 n _ => some n
  | _ => none

def DPC.laterLocal : DPC → Option (Int × Int)
  | .d3r n l | .d4 n l => some (n, l)
  | _ => none

/-- the Till this creator is in the middle of making -/
def CPC.making : CPC → Option Nat
  | .c2 _ id | .c3 _ id | .c3b _ id _ | .c4 id true | .c5 id => some id
  | _ => none

def CPC.unregistered : CPC → Option Nat
  | .c2 _ id | .c3 _ id | .c3b _ id _ => some id
  | _ => none

def CPC.pend : CPC → Option (Int × Nat)
  | .c2 d id | .c3 d id | .c3b d id _ => some (d, id)
  | _ => none

def DPC.ended : DPC → Bool
  | .done => true
  | _ => false

/-- what the daemon remembers of `next_ping` in a local: `now + later`, the wake-up time, the value read at :129 -/
def DPC.pingLocal : DPC → Option Int
  | .d3r n l | .d4 n l => some (n + l)
  | .asleep w => some w
  | .d8w _ v => some v
  | _ => none

/-- the unlocked update of `next_ping` (:129) reads `sorted_timers[0]` -/
def DPC.wantsHead : DPC → Bool
  | .d8r _ | .d8w .. => true
  | _ => false

def CPC.isIdle : CPC → Bool
  | .idle => true
  | _ => false

/-- the creator has seen `enabled` true under the locker and will append -/
def CPC.passed : CPC → Bool
  | .c3b _ _ true => true
  | _ => false

/-- the creator holds nothing and is making nothing -/
def CPC.plain : CPC → Bool
  | .idle | .c0 .. | .c0a .. | .c1 _ => true
  | _ => false

theorem DPC.postSwap_final (p : DPC) (h : p.postSwap = true) : p.final = true := by
  cases p <;> first | rfl | cases h

theorem DPC.midScan_scanning {p : DPC} (h : p.midScan = true) : p.scanning = true := by
  cases p <;> first | rfl | cases h

theorem DPC.transit_nil {p : DPC} (hs : p.scanning = false) (hf : p.final = false) : p.transit = [] := by
  cases p <;> first | rfl | contradiction

theorem DPC.ended_false {p : DPC} (h : p ≠ .done) : p.ended = false := by
  cases p <;> first | rfl | exact absurd rfl h

theorem CPC.eq_idle {p : CPC} (h : p.isIdle = true) : p = .idle := by
  cases p <;> first | rfl | cases h

theorem CPC.passed_holds {p : CPC} (h : p.passed = true) : p.holds = true := by
  cases p <;> first | rfl | cases h

theorem CPC.unregistered_making {p : CPC} {id : Nat} (h : p.unregistered = some id) : p.making = some id := by
  cases p <;> first | exact h | cases h

theorem CPC.pend_making {p : CPC} {d : Int} {id : Nat} (h : p.pend = some (d, id)) : p.making = some id := by
  cases p <;> first | cases h; rfl | cases h

theorem CPC.plain_ite {c : Prop} [Decidable c] {a b : CPC} (ha : a.plain = true) (hb : b.plain = true) :
    (if c then a else b).plain = true := by
  split <;> assumption

theorem pregen_cpc (p : CPC) (id : Nat) (d : Int) :
    (p.unregistered = some id → p.making = some id) ∧ (p.pend = some (d, id) → p.making = some id) ∧
    (p.unregistered = some id → p.holds = true ∨ p.holds = false) :=
  ⟨CPC.unregistered_making, CPC.pend_making, fun _ => by cases p.holds <;> simp⟩

theorem pregen_dpc (p : DPC) :
    (p.postSwap = true → p.final = true) ∧ (p.drained = true → p.postSwap = true) ∧ (p.dueWork = true → p.scanning = true) ∧
    (p.midScan = true → p.scanning = true) ∧ (p.holds = true → p.transit = p.transit) ∧
    (p.clockLocal = none → p.laterLocal = none) := by
  refine ⟨p.postSwap_final, ?_, ?_, DPC.midScan_scanning, fun _ => rfl, ?_⟩ <;> cases p <;> intro h <;>
    first | rfl | cases h

def maxI (a b : Int) : Int := if a ≤ b then b else a

theorem maxI_ge (a b : Int) : a ≤ maxI a b ∧ b ≤ maxI a b := by unfold maxI; split <;> omega

/-! two tactics for goals indexed by a thread; nothing in the development calls them -/

set_option hygiene false in
/-- thread-indexed field with one extra argument: split on `u = t` -/
macro "thr2" X:ident : tactic => `(tactic| (
  intro u a hu
  by_cases hut : u = t
  · subst hut
    simp only [if_true] at hu
    have hx := $X:ident u
    have hmk := Mk u
    have hun := Un u
    have hdd := Dd u
    rw [hp] at hx hmk hun hdd
    simp only [CPC.holds, CPC.making, CPC.unregistered, CPC.pend, reduceCtorEq, Option.some.injEq, Prod.mk.injEq] at hu hx hmk hun hdd
    first
      | omega
      | grind
  · simp only [hut, if_false] at hu
    have hx := $X:ident u a hu
    have hmk := Mk u
    have hmt := Mk t
    rw [hp] at hmt
    simp only [CPC.making, CPC.unregistered, reduceCtorEq, Option.some.injEq] at hmt
    first
      | exact hx
      | grind [CPC.making, CPC.unregistered, CPC.pend]))

set_option hygiene false in
macro "thr3" X:ident : tactic => `(tactic| (
  intro u a b hu
  by_cases hut : u = t
  · subst hut
    simp only [if_true] at hu
    have hx := $X:ident u
    have hdd := Dd u
    rw [hp] at hx hdd
    simp only [CPC.holds, CPC.making, CPC.unregistered, CPC.pend, reduceCtorEq, Option.some.injEq, Prod.mk.injEq] at hu hx hdd
    first
      | omega
      | grind
  · simp only [hut, if_false] at hu
    have hx := $X:ident u a b hu
    first
      | exact hx
      | grind [CPC.making, CPC.unregistered, CPC.pend, DPC.postSwap]))

theorem fireId_eq (s : State) (id : Nat) (b : Bool) : fireId s id b =
    { s with fired := (fireId s id b).fired, firedAt := (fireId s id b).firedAt, early := (fireId s id b).early } := by
  unfold fireId; split <;> rfl

theorem fireId_dpc (s : State) (p : DPC) (id : Nat) (b : Bool) :
    fireId { s with dpc := p } id b = { fireId s id b with dpc := p } := by
  unfold fireId; split <;> rfl

theorem fireId_cpc (s : State) (id : Nat) (b : Bool) : (fireId s id b).cpc = s.cpc := by rw [fireId_eq]

theorem fireId_self (s : State) (id : Nat) (b : Bool) : (fireId s id b).fired id = true := by
  unfold fireId; split
  · assumption
  · exact if_pos rfl

theorem fireId_ne {s : State} {i j : Nat} {b : Bool} (hf : (fireId s i b).fired j = false) : j ≠ i := by
  rintro rfl; exact nomatch (fireId_self s j b).symm.trans hf

theorem upd_false {f : Nat → Bool} {i j : Nat} (h : (if j = i then true else f j) = false) : j ≠ i ∧ f j = false := by
  split at h
  · cases h
  · exact ⟨‹_›, h⟩

structure ThreadI (t : Nat) (p : CPC) (locker : Option Nat) (postSwap : Bool) (maker : Nat → Nat)
    (created regd fired : Nat → Bool) (deadline : Nat → Int) : Prop where
  zeroIdle         : t = 0 → p.isIdle = true
  mutex            : t ≠ 0 → (p.holds = true ↔ locker = some t)
  passedBeforeSwap : p.passed = true → postSwap = false
  makingOwn        : ∀ id, p.making = some id → maker id = t ∧ created id = true
  unregdUnfired    : ∀ id, p.unregistered = some id → regd id = false ∧ fired id = false
  pendDeadline     : ∀ d id, p.pend = some (d, id) → d = deadline id
  noOrphan         : ∀ id, maker id = t → created id = true → regd id = false → fired id = false → p.making = some id

structure Inv (s : State) : Prop where
  daemonMutex      : s.dpc.holds = true ↔ s.locker = some 0
  disabledFinal    : s.disabled = s.dpc.final
  intervalPos      : 0 < s.I
  scanPast         : s.lastScan ≤ s.now
  scanRecent       : s.dpc.ended = false → s.now ≤ s.lastScan + s.I
  scanSpacing      : s.prevScan ≤ s.lastScan ∧ s.lastScan ≤ s.prevScan + s.I
  pingSoon         : s.nextPing ≤ s.lastScan + s.I
  pingLocalSoon    : ∀ x, s.dpc.pingLocal = some x → x ≤ s.lastScan + s.I
  clockLocalNow    : ∀ n, s.dpc.clockLocal = some n → n = s.now
  lastScanNow      : s.dpc.scanning = true → s.now = s.lastScan
  listedRegd       : ∀ x, Listed s.newTimers s.sorted s.dpc.transit x → x.1 = s.deadline x.2 ∧ s.regd x.2 = true
  newSinceScan     : ∀ x, x ∈ s.newTimers → s.lastScan ≤ s.regAt x.2
  sortedLater      : ∀ x, x ∈ s.sorted → (if s.dpc.midScan then s.prevScan else s.lastScan) < x.1
  transitAfterPrev : s.dpc.scanning = true → ∀ x, x ∈ s.dpc.transit → (s.prevScan < x.1 ∨ s.prevScan ≤ s.regAt x.2)
  transitDue       : s.dpc.dueWork = true → ∀ x, x ∈ s.dpc.transit → x.1 ≤ s.now
  unfiredListed    : ∀ id, s.regd id = true → s.fired id = false → Listed s.newTimers s.sorted s.dpc.transit (s.deadline id, id)
  newEmptied       : s.dpc.postSwap = true → s.newTimers = []
  sortedEmptied    : s.dpc.drained = true → s.sorted = []
  sortedNonempty   : s.dpc.wantsHead = true → s.sorted ≠ []
  neverEarly       : s.early = false
  fresh            : ∀ id, s.nextId ≤ id → s.created id = false ∧ s.regd id = false ∧ s.fired id = false
  thr              : ∀ t, ThreadI t (s.cpc t) s.locker s.dpc.postSwap s.maker s.created s.regd s.fired s.deadline

theorem Inv.at {s : State} {p : DPC} (h : Inv s) (hp : s.dpc = p) : Inv { s with dpc := p } := hp ▸ h

theorem Inv.lt_nextId {s : State} (h : Inv s) {id : Nat} (hr : s.regd id = true ∨ s.created id = true) : id < s.nextId :=
  Nat.lt_of_not_le fun hc => by have := h.fresh id hc; rcases hr with hr | hr <;> simp [hr] at this

end MoThreads.Till
