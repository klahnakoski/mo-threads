/-
  M5 (ThreadTree): reading an updated table, and the guard `okJ` of the unregistrations in a join work list.
-/
import MoThreads.Proofs.TreeInv
namespace MoThreads.ThreadTree

theorem upd_same {α : Type} (f : Nat → α) (t : Nat) (v : α) : upd f t v t = v := if_pos rfl
theorem upd_other {α : Type} (f : Nat → α) {t u : Nat} (v : α) (h : u ≠ t) : upd f t v u = f u := if_neg h

theorem upd_app {α β : Type} {f : Nat → α} {t u : Nat} {v : α} {g : α → β} {x : β} (h : g (upd f t v u) = x) :
    (u = t ∧ g v = x) ∨ (u ≠ t ∧ g (f u) = x) := by
  by_cases hu : u = t
  · subst hu; rw [upd_same] at h; exact Or.inl ⟨rfl, h⟩
  · rw [upd_other _ _ hu] at h; exact Or.inr ⟨hu, h⟩

theorem upd_eq {α : Type} {f : Nat → α} {t u : Nat} {v x : α} (h : upd f t v u = x) : (u = t ∧ v = x) ∨ (u ≠ t ∧ f u = x) :=
  upd_app (g := id) h

theorem upd_true {f : Nat → Bool} (x : Nat) {u : Nat} (h : f u = true) : upd f x true u = true := by
  by_cases hu : u = x
  · rw [hu, upd_same]
  · rw [upd_other _ _ hu]; exact h

theorem mem_upd_snoc {f : Nat → List Nat} {t c p x : Nat} : x ∈ upd f t (f t ++ [c]) p ↔ x ∈ f p ∨ (p = t ∧ x = c) := by
  by_cases hp : p = t
  · subst hp; simp [upd]
  · simp [upd, hp]

theorem nodup_snoc {l : List Nat} {a : Nat} (h : l.Nodup) (ha : a ∉ l) : (l ++ [a]).Nodup :=
  List.nodup_append.mpr ⟨h, List.nodup_cons.mpr ⟨List.not_mem_nil, .nil⟩, fun _ hx _ hb => by
    rw [List.mem_singleton.mp hb]; rintro rfl; exact ha hx⟩

theorem Phase.isStopped_iff {p : Phase} : p.isStopped = true ↔ p = .linger ∨ p = .dead := by
  cases p <;> simp [Phase.isStopped]

theorem Phase.isStopped_done {p : Phase} (h : p.isStopped = true) : p.finDone = true ∧ p.post = true := by
  rcases Phase.isStopped_iff.mp h with rfl | rfl <;> exact ⟨rfl, rfl⟩

theorem okJ_imp {s s' : State} {r : List JAct} : ∀ {pend pend' : List Nat},
    (∀ x, s.stopped x = true ∨ x ∈ pend → s'.stopped x = true ∨ x ∈ pend') → okJ s pend r → okJ s' pend' r := by
  induction r with
  | nil => intros; trivial
  | cons a r ih =>
    intro pend pend' hg h
    cases a with
    | wait u =>
      refine ih (fun x hx => ?_) h
      rcases hx with hx | hx
      · exact (hg x (Or.inl hx)).imp_right (List.mem_cons_of_mem u)
      · rcases List.mem_cons.mp hx with rfl | hx
        · exact Or.inr (List.mem_cons_self ..)
        · exact (hg x (Or.inr hx)).imp_right (List.mem_cons_of_mem u)
    | unreg u => exact ⟨hg u h.1, ih hg h.2⟩
    | start u | mark u | finish u cs => exact ih hg h

/-- a timed-out `wait u` drops `u`'s unregistration: nothing else needed `u` to be waited for -/
theorem okJ_filter {s : State} {r : List JAct} {u : Nat} : ∀ {pend pend' : List Nat},
    (∀ x, x ≠ u → s.stopped x = true ∨ x ∈ pend → s.stopped x = true ∨ x ∈ pend') →
      okJ s pend r → okJ s pend' (r.filter (· ≠ .unreg u)) := by
  induction r with
  | nil => intros; trivial
  | cons a r ih =>
    intro pend pend' hg h
    by_cases ha : a = .unreg u
    · subst ha; rw [List.filter_cons_of_neg (by simp)]; exact ih hg h.2
    · rw [List.filter_cons_of_pos (by simpa using ha)]
      cases a with
      | wait x =>
        refine ih (fun y hy hx => ?_) h
        rcases hx with hx | hx
        · exact (hg y hy (Or.inl hx)).imp_right (List.mem_cons_of_mem x)
        · rcases List.mem_cons.mp hx with rfl | hx
          · exact Or.inr (List.mem_cons_self ..)
          · exact (hg y hy (Or.inr hx)).imp_right (List.mem_cons_of_mem x)
      | unreg x => exact ⟨hg x (fun e => ha (e ▸ rfl)) h.1, ih hg h.2⟩
      | start x | mark x | finish x cs => exact ih hg h

theorem okJ_starts {s : State} {pend : List Nat} {r : List JAct} (cs : List Nat) (h : okJ s pend r) :
    okJ s pend (cs.map .start ++ r) := by
  induction cs with
  | nil => exact h
  | cons c cs ih => exact ih

theorem okJ_map_start (s : State) (cs : List Nat) : okJ s [] (cs.map .start) := by
  simpa using okJ_starts (s := s) (pend := []) (r := []) cs trivial

theorem stepStop_eq {s s' : State} {t : Nat} {w : List SAct} {k : List SAct → Call} {l : Label} (hs : stepStop s t w k = some (s', l)) :
    ∃ w' ps, s' = { s with call := upd s.call t (k w'), pstop := ps } ∧ ∀ u, s.pstop u = true → ps u = true := by
  unfold stepStop at hs
  cases w with
  | nil => cases hs
  | cons a r =>
    cases a with
    | visit u => cases hs; exact ⟨_, _, rfl, fun _ h => h⟩
    | fire u => cases hs; exact ⟨_, _, rfl, fun _ h => upd_true u h⟩

theorem stepJoin_none {s : State} {t : Nat} {top : List Nat} {a : JAct} {rest : List JAct} {tl : Option Nat}
    {raised : List Nat} {all : Bool}
    {k : List JAct → List Nat → Call} (h : stepJoin s t top (a :: rest) tl raised all k = none) :
    ∃ v, a = .wait v ∧ s.stopped v = false ∧ tillOn s tl = false := by
  unfold stepJoin at h
  cases a with
  | wait v =>
    simp only at h
    split at h
    · cases h
    · split at h
      · cases h
      · rename_i h1 h2; exact ⟨v, rfl, Bool.eq_false_iff.mpr h1, Bool.eq_false_iff.mpr h2⟩
  | _ => cases h

end MoThreads.ThreadTree
