/-
  M6 (Till): a ranking function — the daemon does not spin.  Without environment moves (no new Till, no stop request,
  no passing of time) every step of the daemon or of a creator strictly decreases
    position in the loop + 13·[next_ping is not in the future] + 20·[asleep although the wake-up time has come]
    + timers not yet fired + Σ creators' remaining steps (a creator that may still lower next_ping carries 14 more),
  the loop being cut at its two upward edges (waking; starting a scan without having slept).
  Also `stepD_none`, `stepC_none`, `quiescent_settled`, and `StopPath`: after a stop request the daemon only moves
  towards `done`.
-/
import MoThreads.Proofs.TillMain
namespace MoThreads.Till
open MoThreads

def dpos : DPC → Nat
  | .start => 14 | .d0 => 13 | .d1 => 12 | .d2 _ => 11 | .d3 _ => 10 | .d3r .. => 9 | .d4 .. => 8 | .asleep _ => 7
  | .d5 _ => 20 | .d6 _ => 19 | .d6r .. => 18 | .d7 .. => 17 | .d8r _ => 16 | .d8w .. => 15 | .d9 _ => 14
  | .f0 => 6 | .f1 => 5 | .f2 => 4 | .f2r _ => 3 | .f3 _ => 2 | .done => 0

/-- the daemon's next pass through `d4` will find nothing to sleep for (`next_ping` is not in the future) -/
def lowB (p : DPC) (np now : Int) : Bool :=
  match p with
  | .start | .d0 | .d1 | .d2 _ | .d3 _ | .d6r .. | .d7 .. | .d8r _ | .d9 _ => decide (np ≤ now)
  | .d3r _ later | .d4 _ later => decide (later ≤ 0)
  | .d8w _ v => decide (v ≤ now)
  | _ => false

def lowN (p : DPC) (np now : Int) : Nat := if lowB p np now then 13 else 0

def wk (p : DPC) (now : Int) : Nat :=
  match p with
  | .asleep w => if w ≤ now then 20 else 0
  | _ => 0

def crank : CPC → Nat
  | .idle => 0 | .c0 .. => 21 | .c0a .. => 21 | .c1 _ => 20 | .c2 .. => 19 | .c3 .. => 18 | .c3b .. => 17 | .c4 .. => 2 | .c5 _ => 1

def drank (s : State) : Nat :=
  dpos s.dpc + lowN s.dpc s.nextPing s.now + wk s.dpc s.now + (s.newTimers.length + s.sorted.length + s.dpc.transit.length)

def rank (N : Nat) (s : State) : Nat := drank s + sumTo N (fun t => crank (s.cpc t))

theorem lowN_le (p : DPC) (np now : Int) : lowN p np now ≤ 13 := by unfold lowN; split <;> omega

theorem drank_stepD {s s' : State} {l : Label} (h : Inv s) (hs : stepD s = some (s', l)) : drank s' < drank s := by
  have hI := h.intervalPos
  unfold drank
  cases hp : s.dpc <;> simp only [stepD, hp] at hs <;> have h' := h.at hp
  -- d3: `later ≤ 0` says what `next_ping ≤ now` said; d6: `next_ping := now + INTERVAL` is in the future
  case' d3 n | d6 n => have hn : n = s.now := h'.clockLocalNow n rfl
  case' d7 n new =>
    have := (scan_mem n (s.sorted ++ new)).1.length_eq
    simp only [List.length_append] at this
  -- d8w: the head of `sorted` is not due, so taking the minimum with it changes nothing about `≤ now`
  case' d8w w v =>
    split at hs
    · cases hs
    rename_i x _ hso
    have hnw : s.now = s.lastScan := h'.lastScanNow rfl
    have : s.lastScan < x.1 := h'.sortedLater x (hso ▸ .head _)
  -- the two edges that go up: `asleep → d0`, which the 20 pay for, and `d4 → d5`, which the 13 pay for
  case' d2 | d5 | f1 | asleep | d4 => split at hs
  case' d9 w | f3 w => cases w
  all_goals cases hs
  case' d9.cons | f3.cons => rw [fireId_eq]
  case' d0 | d7 => dsimp only; split
  all_goals
    simp only [dpos, lowN, lowB, wk, DPC.transit, List.length_nil, List.length_cons, List.length_append, decide_eq_true_eq,
      Bool.false_eq_true, if_false, minI_eq_min]
    lia

theorem drank_congr {s s' : State} (h1 : s'.dpc = s.dpc) (h2 : s'.nextPing = s.nextPing) (h3 : s'.now = s.now)
    (h4 : s'.newTimers = s.newTimers) (h5 : s'.sorted = s.sorted) : drank s' = drank s := by
  unfold drank; rw [h1, h2, h3, h4, h5]

theorem stepD_frame {s s' : State} {l : Label} (hs : stepD s = some (s', l)) : s'.cpc = s.cpc ∧ s'.stopReq = s.stopReq := by
  cases hp : s.dpc <;> simp only [stepD, hp] at hs
  case' d2 | d5 | f1 | d4 | asleep | d8w => split at hs
  case' d9 w | f3 w => cases w
  all_goals cases hs
  case' d9.cons | f3.cons => rw [fireId_eq]
  all_goals exact ⟨rfl, rfl⟩

theorem stepC_frame {s s' : State} {t : Nat} {l : Label} (hs : stepC s t = some (s', l)) :
    s'.dpc = s.dpc ∧ s'.now = s.now ∧ s'.stopReq = s.stopReq ∧ ∀ u, u ≠ t → s'.cpc u = s.cpc u := by
  cases hp : s.cpc t <;> simp only [stepC, hp] at hs
  case' c2 | c3b => split at hs
  all_goals cases hs
  case' c5 => rw [fireId_eq]
  all_goals exact ⟨rfl, rfl, rfl, fun u hu => if_neg hu⟩

/-- registering a timer adds one to the daemon's work and may bring `next_ping` to the present (13), which the 15 between
`c3b` and `c4` pay for -/
theorem stepC_drank {s s' : State} {t : Nat} {l : Label} (hs : stepC s t = some (s', l)) :
    drank s' + crank (s'.cpc t) < drank s + crank (s.cpc t) := by
  cases hp : s.cpc t <;> simp only [stepC, hp] at hs
  case' c3b d id g0 => have := lowN_le s.dpc (minI s.nextPing d) s.now
  case' c2 | c3b => split at hs
  all_goals cases hs
  case' c5 => rw [fireId_eq]
  all_goals
    simp only [drank, State.setC, ↓reduceIte, crank, List.length_append, List.length_cons, List.length_nil]
    lia

theorem crank_eq_zero {p : CPC} (h : crank p = 0) : p = .idle := by
  cases p <;> first | rfl | cases h

theorem stepC_not_idle {s s' : State} {t : Nat} {l : Label} (hs : stepC s t = some (s', l)) : s.cpc t ≠ .idle := by
  intro hi; unfold stepC at hs; rw [hi] at hs; cases hs

def Below (N : Nat) (s : State) : Prop := ∀ t, N ≤ t → s.cpc t = .idle

theorem run_length_le_rank {N : Nat} {s s' : State} {tr : List (Nat × Label)} (h : Inv s) (hb : Below N s) (r : sys.Run s tr s') :
    tr.length + rank N s' ≤ rank N s := by
  have := Sys.Run.length_le_sumTo sys (fun s t => crank (s.cpc t)) drank Inv (fun _ _ _ _ => inv_step)
    (fun s s' t l hi hs => ?_) r h (fun t ht => by rw [hb t ht]; rfl)
  · unfold rank; omega
  · unfold sys step at hs
    dsimp only at hs ⊢
    split at hs
    · have := drank_stepD hi hs
      rw [(stepD_frame hs).1]
      exact ⟨by omega, id, fun _ _ => rfl⟩
    · have := stepC_drank hs
      exact ⟨by omega, fun h0 => absurd (crank_eq_zero h0) (stepC_not_idle hs),
        fun u hu => by rw [(stepC_frame hs).2.2.2 u hu]⟩

theorem step_pos (s : State) {t : Nat} (ht : t ≠ 0) : step s t = stepC s t := if_neg ht

theorem stepD_none {s : State} (h : stepD s = none) : s.dpc.holds = false ∧
    (s.dpc = .done ∨ (∃ w, s.dpc = .asleep w ∧ s.now < w) ∨ s.locker ≠ none ∨ (s.dpc.wantsHead = true ∧ s.sorted = [])) := by
  cases hp : s.dpc <;> simp only [stepD, hp] at h
  case done => exact ⟨rfl, .inl rfl⟩
  case asleep w => split at h <;> cases h; exact ⟨rfl, .inr (.inl ⟨w, rfl, by omega⟩)⟩
  case d2 | d5 | f1 => split at h <;> cases h; exact ⟨rfl, .inr (.inr (.inl ‹_›))⟩
  case d8w => split at h <;> cases h; exact ⟨rfl, .inr (.inr (.inr ⟨rfl, ‹_›⟩))⟩
  case d4 => split at h <;> cases h
  case d9 w | f3 w => cases w <;> cases h
  all_goals cases h

theorem stepC_none {s : State} {t : Nat} (h : stepC s t = none) : (s.cpc t).holds = false ∧ (s.cpc t = .idle ∨ s.locker ≠ none) := by
  cases hp : s.cpc t <;> simp only [stepC, hp] at h
  case idle => exact ⟨rfl, .inl rfl⟩
  case c2 => split at h <;> cases h; exact ⟨rfl, .inr ‹_›⟩
  case c3b => split at h <;> cases h
  all_goals cases h

theorem quiescent_settled {s : State} (h : Inv s) (hq : sys.Quiescent s) :
    (∀ t, s.cpc t = .idle) ∧ (s.dpc = .done ∨ ∃ w, s.dpc = .asleep w ∧ s.now < w) := by
  have hd := stepD_none (hq 0)
  have hc : ∀ t, t ≠ 0 → _ := fun t ht => stepC_none ((step_pos s ht).symm.trans (hq t))
  -- whoever holds the locker can move
  have free : s.locker = none := by
    cases hl : s.locker with
    | none => rfl
    | some u =>
      by_cases hu : u = 0
      · have := h.daemonMutex.mpr (hu ▸ hl); rw [hd.1] at this; cases this
      · have := ((h.thr u).mutex hu).mpr hl; rw [(hc u hu).1] at this; cases this
  constructor
  · intro t
    by_cases ht : t = 0
    · exact CPC.eq_idle ((h.thr t).zeroIdle ht)
    · exact (hc t ht).2.resolve_right (absurd free)
  · rcases hd.2 with hd | hd | hd | hd
    · exact .inl hd
    · exact .inr hd
    · exact absurd free hd
    · exact absurd hd.2 (h.sortedNonempty hd.1)

def stopPc : DPC → Int → Prop
  | .asleep w, now => w ≤ now
  | .d0, _ | .f0, _ | .f1, _ | .f2, _ | .f2r _, _ | .f3 _, _ | .done, _ => True
  | _, _ => False

def StopPath (s : State) : Prop := s.stopReq = true ∧ stopPc s.dpc s.now

theorem stopPath_step {s s' : State} {t : Nat} {l : Label} (hp : StopPath s) (hs : step s t = some (s', l)) : StopPath s' := by
  obtain ⟨hr, hpc⟩ := hp
  unfold step at hs
  split at hs
  · refine ⟨(stepD_frame hs).2.trans hr, ?_⟩
    cases hd : s.dpc <;> simp only [stepD, hd] at hs <;> rw [hd] at hpc
    case asleep w | f1 => split at hs <;> cases hs; trivial
    case d0 => cases hs; rw [hr]; trivial
    case f3 w => cases w <;> cases hs <;> trivial
    case f0 | f2 | f2r => cases hs; trivial
    case done => cases hs
    all_goals exact hpc.elim
  · obtain ⟨e1, e2, e3, _⟩ := stepC_frame hs
    exact ⟨e3.trans hr, e1 ▸ e2 ▸ hpc⟩

theorem stopPath_run {s s' : State} {tr : List (Nat × Label)} (hp : StopPath s) (r : sys.Run s tr s') : StopPath s' :=
  r.preserves sys (fun _ _ _ _ hp hs => stopPath_step hp hs) hp

end MoThreads.Till
