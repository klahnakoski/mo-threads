/-
  M2: the AND countdown (C04), invariant `InvA`: `remaining` counts the operands whose countdown token has not run, so a
  composite `x & y` agrees with its operands at quiescence.
-/
import MoThreads.Proofs.CompIff
namespace MoThreads.Composite

/-- in how many places the countdown token of operand `i` (which is `d`) of AndSignals `n` currently is:
still to be registered, registered on `d`, or detached and queued to run (`tok s d (.andDone n i)` written out, which
is how `Move.tok` applies to it) -/
def liveA (s : State) (n i d : Nat) : Nat :=
  cnt s (.thenJ d (.andDone n i)) + (s.sigs d).jobs.count (.andDone n i) + cnt s (.run (.andDone n i))

/-- what operand `i` still contributes to the countdown -/
def wA (s : State) (n i d : Nat) : Nat :=
  if liveA s n i d = 1 then 1 else if (s.sigs d).go then 0 else 1

structure InvA (s : State) : Prop where
  twoOpds        : ∀ n, n < s.nAnd → ∃ x y, (s.ands n).deps0 = [x, y]
  tokenAtOpd     : ∀ z n i, Job.andDone n i ∈ (s.sigs z).jobs → (s.ands n).deps0[i]? = some z
  thenAtOpd      : ∀ z n i, InTodos s (.thenJ z (.andDone n i)) → (s.ands n).deps0[i]? = some z
  tokenOnce      : ∀ n i d, n < s.nAnd → (s.ands n).deps0[i]? = some d → liveA s n i d ≤ 1
  runJustified   : ∀ n i, InTodos s (.run (.andDone n i)) → ∃ d, (s.ands n).deps0[i]? = some d ∧ (s.sigs d).go = true
  noTokenDead    : ∀ n i d, n < s.nAnd → (s.ands n).deps0[i]? = some d → liveA s n i d = 0 → (s.sigs d).go = false → (s.sigs d).alive = false
  goAlive        : ∀ z df, InTodos s (.goS z df) → (s.sigs z).alive = true
  todoTgtAlive   : ∀ a j n, InTodos s a → a.job = some j → j.andObj = some n → (s.sigs (s.ands n).target).alive = true
  jobTgtAlive    : ∀ z j n, (s.sigs z).alive = true → j ∈ (s.sigs z).jobs → j.andObj = some n → (s.sigs (s.ands n).target).alive = true
  countdownExact : ∀ n x y, n < s.nAnd → (s.ands n).deps0 = [x, y] → (s.ands n).remaining = wA s n 0 x + wA s n 1 y
  zeroTriggers   : ∀ n, n < s.nAnd → (s.ands n).remaining = 0 → (s.sigs (s.ands n).target).go = true ∨ InTodos s (.goS (s.ands n).target false)
  goJustified    : ∀ z, InTodos s (.goS z false) → ∀ n, (s.sigs z).built = .andOut n → ∀ d, d ∈ (s.ands n).deps0 → (s.sigs d).go = true
  trueOnlyIf     : ∀ z n, z < s.nSig → (s.sigs z).built = .andOut n → (s.sigs z).go = true → (s.sigs z).direct = false →
          ∀ d, d ∈ (s.ands n).deps0 → (s.sigs d).go = true

theorem invA_init : InvA init := by
  constructor
  case twoOpds | zeroTriggers => intro _ h; simp [init] at h
  case tokenOnce | noTokenDead | countdownExact => intro _ _ _ h; simp [init] at h
  case tokenAtOpd => intro z n i h; rw [init_jobs] at h; cases h
  case goJustified => intro _ h; exact absurd h (inTodos_init _)
  case runJustified | goAlive => intro _ _ h; exact absurd h (inTodos_init _)
  case thenAtOpd | todoTgtAlive => intro _ _ _ h; exact absurd h (inTodos_init _)
  case jobTgtAlive => intro z j n _ h; rw [init_jobs] at h; cases h
  case trueOnlyIf => intro z n _ hb; rw [init_built] at hb; cases hb

theorem cnt_same_of {s s' : State} {t : Nat} {a0 : Act} {rest new : List Act} (st : TodoStep s s' t a0 rest new) (b : Act)
    (h0 : b ≠ a0) (hn : b ∉ new) : cnt s' b = cnt s b := by
  have := st.chg.cnt b
  rw [if_neg fun e => h0 (Option.some.inj e).symm, List.count_eq_zero.mpr hn] at this
  omega

theorem wA_le_one (s : State) (n i d : Nat) : wA s n i d ≤ 1 := by
  unfold wA; split <;> (try split) <;> omega

theorem wA_zero {s : State} {n i d : Nat} (h : wA s n i d = 0) : (s.sigs d).go = true := by
  unfold wA at h
  split at h
  · cases h
  · split at h
    · assumption
    · cases h

theorem wA_of_live {s : State} {n i d : Nat} (h : liveA s n i d = 1) : wA s n i d = 1 := by simp [wA, h]

theorem wA_of_dead {s : State} {n i d : Nat} (h : liveA s n i d = 0) : wA s n i d = if (s.sigs d).go then 0 else 1 := by simp [wA, h]

theorem invA_move {s s' : State} {t : Nat} {hd : Option Act} {new : List Act} (hl : InvL s) (hg : InvG s) (ha : InvA s)
    (m : Move s s' t hd new) : InvA s' := by
  have dep_lt : ∀ {n i d}, n < s.nAnd → (s.ands n).deps0[i]? = some d → d < s.nSig := fun hn hd =>
    (hl.F7 _ hn).1 _ (List.mem_of_getElem? hd)
  have tgt_lt : ∀ {n}, n < s.nAnd → (s.ands n).target < s.nSig := fun hn => (hl.F2 _ hn).1
  have unref : ∀ {n}, ¬ n < s.nAnd → ∀ i d, liveA s n i d = 0 := by
    intro n hn i d
    have h1 : cnt s (.thenJ d (.andDone n i)) = 0 := cnt_zero.mpr fun h => hn (hl.M2a _ _ n h rfl rfl)
    have h2 : cnt s (.run (.andDone n i)) = 0 := cnt_zero.mpr fun h => hn (hl.M2a _ _ n h rfl rfl)
    have h3 : (s.sigs d).jobs.count (.andDone n i) = 0 := List.count_eq_zero.mpr fun h => hn (hl.M3a _ _ n h rfl)
    simp [liveA, h1, h2, h3]
  have live : ∀ n i d, (n < s.nAnd → (s.ands n).deps0[i]? = some d) →
      liveA s' n i d + (if hd = some (.run (.andDone n i)) then 1 else 0) = liveA s n i d + new.count (.thenJ d (.andDone n i)) := by
    intro n i d hd0
    refine m.tok d (.andDone n i) (fun z hz => ?_) (fun z hz => ?_) (fun z he => ?_) nofun
    · have hn := hl.M3a _ _ n hz rfl
      have := ha.tokenAtOpd z n i hz; rw [hd0 hn] at this; injection this with h; exact h.symm
    · have hn := hl.M2a _ _ n hz rfl rfl
      have := ha.thenAtOpd z n i hz; rw [hd0 hn] at this; injection this with h; exact h.symm
    · obtain ⟨o, i', h⟩ := hl.B4 _ _ (m.td.head he); cases h
  have live_old : ∀ {n i d}, n < s.nAnd → (s.ands n).deps0[i]? = some d →
      liveA s' n i d + (if hd = some (.run (.andDone n i)) then 1 else 0) = liveA s n i d := by
    intro n i d hn hd0
    have := live n i d (fun _ => hd0)
    rwa [List.count_eq_zero.mpr, Nat.add_zero] at this
    intro hm
    rcases m.src _ hm with ⟨k, h, _⟩ | ⟨_, _, _, _, h⟩ | ⟨_, _, _, h⟩
    · cases h
    · cases h
    · simp only [Job.andObj, Option.some.injEq] at h; omega
  have run_go : ∀ {n i d}, n < s.nAnd → (s.ands n).deps0[i]? = some d → hd = some (.run (.andDone n i)) →
      liveA s n i d = 1 ∧ liveA s' n i d = 0 ∧ (s'.sigs d).go = true := by
    intro n i d hn hd0 he
    have h1 := live_old hn hd0
    have h2 := ha.tokenOnce n i d hn hd0
    obtain ⟨d', hd', hgo⟩ := ha.runJustified n i (m.td.head he)
    rw [hd0] at hd'; injection hd' with hdd; subst hdd
    rw [if_pos he] at h1
    exact ⟨by omega, by omega, (m.go d (dep_lt hn hd0) hgo).1⟩
  have w_old : ∀ {n i d}, n < s.nAnd → (s.ands n).deps0[i]? = some d →
      wA s' n i d + (if hd = some (.run (.andDone n i)) then 1 else 0) = wA s n i d := by
    intro n i d hn hd0
    have hdl := dep_lt hn hd0
    by_cases he : hd = some (.run (.andDone n i))
    · obtain ⟨h1, h2, h3⟩ := run_go hn hd0 he
      rw [if_pos he, wA_of_live h1, wA_of_dead h2, h3]; rfl
    · have h1 := live_old hn hd0
      rw [if_neg he] at h1 ⊢
      have h2 := ha.tokenOnce n i d hn hd0
      by_cases hl1 : liveA s n i d = 1
      · rw [wA_of_live hl1, wA_of_live (by omega)]
      · have hl0 : liveA s n i d = 0 := by omega
        rw [wA_of_dead hl0, wA_of_dead (by omega)]
        cases hgo : (s.sigs d).go with
        | true => rw [(m.go d hdl hgo).1]; rfl
        | false =>
          cases hgo' : (s'.sigs d).go with
          | false => rfl
          | true =>
            -- it is being triggered, so it is alive; an untriggered live operand still has its token
            obtain ⟨df, h, _⟩ := m.rose hdl hgo hgo'
            have := ha.noTokenDead n i d hn hd0 hl0 hgo
            rw [ha.goAlive d df (m.td.head h)] at this; cases this
  have go_all : ∀ {n}, n < s.nAnd → (∀ d, d ∈ (s.ands n).deps0 → (s.sigs d).go = true) →
      ∀ d, d ∈ (s'.ands n).deps0 → (s'.sigs d).go = true := by
    intro n hn h d hd'
    rw [(m.ands n hn).1] at hd'
    exact (m.go d ((hl.F7 n hn).1 d hd') (h d hd')).1
  have live_new : ∀ {x y}, hd = some (.andNew x y) → ∀ i d, [x, y][i]? = some d → liveA s' s.nAnd i d = 1 := by
    intro x y he i d hid
    obtain ⟨_, _, _, _, _, _, hnew⟩ := m.ran he
    have h := live s.nAnd i d (fun h => absurd h (Nat.lt_irrefl _))
    rw [if_neg (by rw [he]; intro h; cases h), unref (Nat.lt_irrefl _), hnew] at h
    rcases idx_of_pair hid with ⟨rfl, rfl⟩ | ⟨rfl, rfl⟩ <;> simpa using h
  constructor
  case twoOpds =>
    intro n hn
    rcases m.and_cases hn with h | ⟨rfl, x, y, he⟩
    · rw [(m.ands n h).1]; exact ha.twoOpds n h
    · obtain ⟨_, _, hdeps, _⟩ := m.ran he; exact ⟨x, y, hdeps⟩
  case tokenAtOpd =>
    intro z n i hj
    rcases m.jsrc z _ hj with h | h
    · rw [(m.ands n (hl.M3a _ _ n h rfl)).1]; exact ha.tokenAtOpd z n i h
    · have hin := m.td.head h
      rw [(m.ands n (hl.M2a _ _ n hin rfl rfl)).1]; exact ha.thenAtOpd z n i hin
  case thenAtOpd =>
    intro z n i hj
    rcases m.td.sub hj with h | h
    · rcases m.src _ h with ⟨k, hk, _⟩ | ⟨_, _, _, _, hk⟩ | ⟨x, y, he, hk⟩
      · cases hk
      · cases hk
      · obtain ⟨_, _, hdeps, _, _, _, hnew⟩ := m.ran he
        simp only [Job.andObj, Option.some.injEq] at hk; subst hk
        rw [hnew] at h; rw [hdeps]
        simp only [List.mem_cons, Act.thenJ.injEq, Job.andDone.injEq, true_and, reduceCtorEq, and_false, List.mem_nil_iff, or_false] at h
        rcases h with ⟨rfl, rfl⟩ | ⟨rfl, rfl⟩ <;> rfl
    · rw [(m.ands n (hl.M2a _ _ n h rfl rfl)).1]; exact ha.thenAtOpd z n i h
  case tokenOnce =>
    intro n i d hn hd'
    rcases m.and_cases hn with h | ⟨rfl, x, y, he⟩
    · rw [(m.ands n h).1] at hd'
      have := live_old h hd'; have := ha.tokenOnce n i d h hd'; omega
    · obtain ⟨_, _, hdeps, _⟩ := m.ran he
      rw [hdeps] at hd'; exact Nat.le_of_eq (live_new he i d hd')
  case runJustified =>
    intro n i hj
    rcases m.td.sub hj with h | h
    · rcases m.src _ h with ⟨z, df, _, hz, hgo⟩ | ⟨d, he, hgo⟩ | ⟨_, _, h, _⟩
      case inr.inr => cases h
      · exact ⟨z, by rw [(m.ands n (hl.M3a _ _ n hz rfl)).1]; exact ha.tokenAtOpd z n i hz, hgo⟩
      · have hin := m.td.head he
        have hn := hl.M2a _ _ n hin rfl rfl
        have hd0 := ha.thenAtOpd d n i hin
        exact ⟨d, by rw [(m.ands n hn).1]; exact hd0, (m.go d (dep_lt hn hd0) hgo).1⟩
    · have hn := hl.M2a _ _ n h rfl rfl
      obtain ⟨d, hd0, hgo⟩ := ha.runJustified n i h
      exact ⟨d, by rw [(m.ands n hn).1]; exact hd0, (m.go d (dep_lt hn hd0) hgo).1⟩
  case noTokenDead =>
    intro n i d hn hd' hl0 hgo
    rcases m.and_cases hn with h | ⟨rfl, x, y, he⟩
    · rw [(m.ands n h).1] at hd'
      have hdl := dep_lt h hd'
      by_cases he : hd = some (.run (.andDone n i))
      · rw [(run_go h hd' he).2.2] at hgo; cases hgo
      · have := live_old h hd'
        rw [if_neg he] at this
        rw [m.alive d hdl]; exact ha.noTokenDead n i d h hd' (by omega) (m.ext.go_back hdl hgo)
    · obtain ⟨_, _, hdeps, _⟩ := m.ran he
      rw [hdeps] at hd'; rw [live_new he i d hd'] at hl0; cases hl0
  case goAlive =>
    intro z df hj
    rcases m.td.sub hj with h | h
    · rcases m.src _ h with ⟨_, hz, hal⟩ | ⟨_, o, i, he, rfl, hal⟩ | ⟨_, n, i, he, rfl, _⟩
      · rw [m.alive z hz]; exact hal
      · rw [m.alive _ (hl.F1 o (hl.M2o _ _ o (m.td.head he) rfl rfl)).1]; exact hal
      · have hin := m.td.head he
        rw [m.alive _ (tgt_lt (hl.M2a _ _ n hin rfl rfl))]; exact ha.todoTgtAlive _ _ n hin rfl rfl
    · rw [m.alive z (hl.M1 _ z h (by simp [Act.sigs]))]; exact ha.goAlive z df h
  case todoTgtAlive =>
    intro b j n hb hjob hobj
    have old : ∀ {b'}, InTodos s b' → b'.job = some j → (s'.sigs (s'.ands n).target).alive = true := by
      intro b' hin hj'
      have hn := hl.M2a _ _ n hin hj' hobj
      rw [(m.ands n hn).2.1, m.alive _ (tgt_lt hn)]; exact ha.todoTgtAlive _ _ n hin hj' hobj
    rcases m.td.sub hb with h | h
    · cases b with
      | run j' =>
        injection hjob with hjj; subst hjj
        rcases m.src _ h with ⟨z, df, he, hz, _⟩ | ⟨d, he, _⟩ | ⟨_, _, h, _⟩
        case inr.inr => subst h; cases hobj
        · have hn := hl.M3a _ _ n hz hobj
          rw [(m.ands n hn).2.1, m.alive _ (tgt_lt hn)]; exact ha.jobTgtAlive z _ n (ha.goAlive z df (m.td.head he)) hz hobj
        · exact old (m.td.head he) rfl
      | thenJ d j' =>
        injection hjob with hjj; subst hjj
        rcases m.src _ h with ⟨k, hk, _⟩ | ⟨_, _, _, _, hk⟩ | ⟨x, y, he, hk⟩
        · subst hk; cases hobj
        · cases j' <;> simp [Job.orObj, Job.andObj] at hk hobj
        · rw [hobj] at hk; injection hk with hk; subst hk
          obtain ⟨_, hns, _, _, htg, _, _⟩ := m.ran he
          rw [htg]; exact (m.fresh s.nSig (Nat.le_refl _) (by omega)).2.2.2.1
      | removeJ d j' =>
        injection hjob with hjj; subst hjj
        obtain ⟨o, i, hk, _⟩ := m.src _ h; subst hk; cases hobj
      | _ => cases hjob
    · exact old h hjob
  case jobTgtAlive =>
    intro z j n hal hj hobj
    rcases m.jsrc z j hj with h | h
    · have hn := hl.M3a _ _ n h hobj
      have hz : z < s.nSig := by
        rcases Nat.lt_or_ge z s.nSig with h1 | h1
        · exact h1
        · rw [(hl.F5 z h1).2.1] at h; cases h
      rw [m.alive z hz] at hal
      rw [(m.ands n hn).2.1, m.alive _ (tgt_lt hn)]; exact ha.jobTgtAlive z j n hal h hobj
    · have hin := m.td.head h
      have hn := hl.M2a _ _ n hin rfl hobj
      rw [(m.ands n hn).2.1, m.alive _ (tgt_lt hn)]; exact ha.todoTgtAlive _ _ n hin rfl hobj
  case countdownExact =>
    intro n x y hn hxy
    rcases m.and_cases hn with h | ⟨rfl, x', y', he⟩
    · rw [(m.ands n h).1] at hxy
      have hW := ha.countdownExact n x y h hxy
      have h0 := w_old h (i := 0) (d := x) (by rw [hxy]; rfl)
      have h1 := w_old h (i := 1) (d := y) (by rw [hxy]; rfl)
      by_cases he : ∃ i, hd = some (.run (.andDone n i))
      · obtain ⟨i, he⟩ := he
        rw [(m.ran he).1]
        obtain ⟨d, hd0, _⟩ := ha.runJustified n i (m.td.head he)
        rw [hxy] at hd0
        rcases idx_of_pair hd0 with ⟨rfl, _⟩ | ⟨rfl, _⟩
        · rw [if_pos he] at h0; rw [if_neg (by rw [he]; intro h; cases h)] at h1; omega
        · rw [if_pos he] at h1; rw [if_neg (by rw [he]; intro h; cases h)] at h0; omega
      · rw [m.remSame n h (fun i hi => he ⟨i, hi⟩)]
        rw [if_neg (fun hi => he ⟨_, hi⟩)] at h0 h1; omega
    · obtain ⟨_, _, hdeps, _, _, hrem, _⟩ := m.ran he
      rw [hdeps] at hxy; injection hxy with h1 h2; injection h2 with h2 _; subst h1; subst h2
      rw [hrem, wA_of_live (live_new he 0 x' rfl), wA_of_live (live_new he 1 y' rfl)]
  case zeroTriggers =>
    intro n hn hr
    rcases m.and_cases hn with h | ⟨rfl, x, y, he⟩
    · rw [(m.ands n h).2.1]
      by_cases he : ∃ i, hd = some (.run (.andDone n i))
      · obtain ⟨i, he⟩ := he
        obtain ⟨hrem, hzero⟩ := m.ran he
        rw [hrem] at hr
        exact Or.inr (m.td.intro (hzero hr))
      · rw [m.remSame n h (fun i hi => he ⟨i, hi⟩)] at hr
        rcases ha.zeroTriggers n h hr with h1 | h1
        · exact Or.inl (m.go _ (tgt_lt h) h1).1
        · by_cases heq : hd = some (.goS (s.ands n).target false)
          · exact Or.inl ((m.ran heq).1 (hg.compNotNever _ (tgt_lt h) (by rw [(hl.F2 n h).2]; intro hb; cases hb)))
          · exact Or.inr (m.td.keep h1 heq)
    · obtain ⟨_, _, _, _, _, hrem, _⟩ := m.ran he
      rw [hrem] at hr; cases hr
  case goJustified =>
    intro z hj n hb d hd'
    rcases m.td.sub hj with h | h
    · rcases m.src _ h with ⟨hf, _⟩ | ⟨_, o, i, he, rfl, _⟩ | ⟨_, n', i, he, rfl, hr0⟩
      · cases hf
      · have ho := hl.M2o _ _ o (m.td.head he) rfl rfl
        rw [m.built _ (hl.F1 o ho).1, (hl.F1 o ho).2] at hb; cases hb
      · -- the countdown reached zero: it stood at one, carried by the token that has just run, so the other operand is true
        have hin := m.td.head he
        have hn := hl.M2a _ _ n' hin rfl rfl
        rw [m.built _ (tgt_lt hn), (hl.F2 n' hn).2] at hb; injection hb with hb; subst hb
        refine go_all hn (fun d hd0 => ?_) d hd'
        obtain ⟨x, y, hxy⟩ := ha.twoOpds n' hn
        obtain ⟨di, hdi, hgo⟩ := ha.runJustified n' i hin
        have hW := ha.countdownExact n' x y hn hxy
        have hw := wA_of_live (run_go hn hdi he).1
        rw [hxy] at hdi hd0
        simp only [List.mem_cons, List.mem_nil_iff, or_false] at hd0
        rcases idx_of_pair hdi with ⟨rfl, rfl⟩ | ⟨rfl, rfl⟩ <;> rcases hd0 with rfl | rfl
        · exact hgo
        · exact wA_zero (n := n') (i := 1) (by omega)
        · exact wA_zero (n := n') (i := 0) (by omega)
        · exact hgo
    · have hz := hl.M1 _ z h (by simp [Act.sigs])
      rw [m.built z hz] at hb
      exact go_all (hl.F4 z n hb).1 (ha.goJustified z h n hb) d hd'
  case trueOnlyIf =>
    intro z n hz hb hgo hdir d hd'
    by_cases hzs : z < s.nSig
    · rw [m.built z hzs] at hb
      refine go_all (hl.F4 z n hb).1 ?_ d hd'
      rcases m.gsrc z hzs hgo with h | ⟨df, he, hdf⟩
      · rw [(m.go z hzs h).2.1] at hdir; exact ha.trueOnlyIf z n hzs hb h hdir
      · rw [hdf] at hdir; subst hdir; exact ha.goJustified z (m.td.head he) n hb
    · rw [(m.fresh z (by omega) hz).2.2.1] at hgo; cases hgo

theorem invA_die {s : State} {z : Nat} (hl : InvL s) (hh : InvH s) (ha : InvA s) (C : Collectable s z) : InvA (s.die z) := by
  have live_le : ∀ n i d, liveA (s.die z) n i d = liveA s n i d - (if d = z then (s.sigs z).jobs.count (.andDone n i) else 0) := by
    intro n i d
    show cnt s _ + _ + cnt s _ = cnt s _ + _ + cnt s _ - _
    by_cases hd : d = z
    · subst hd; rw [die_self]; simp only [List.count_nil, if_true]; omega
    · rw [die_other hd]; simp only [hd, if_false]; omega
  have tgt_ne : ∀ {n}, n < s.nAnd → andRef s n = true → (s.ands n).target ≠ z := fun hn hr => (C.noAnd _ hn hr).2
  constructor
  case twoOpds => exact ha.twoOpds
  case tokenAtOpd => intro w n i hj; exact ha.tokenAtOpd w n i (die_jobs hj).2
  case thenAtOpd => exact ha.thenAtOpd
  case tokenOnce => intro n i d hn hd; rw [live_le]; have := ha.tokenOnce n i d hn hd; omega
  case runJustified => intro n i hj; obtain ⟨d, hd, hg⟩ := ha.runJustified n i hj; exact ⟨d, hd, by rw [die_go]; exact hg⟩
  case noTokenDead =>
    intro n i d hn hd hl0 hg
    rw [die_go] at hg
    by_cases hdz : d = z
    · subst hdz; rw [die_self]
    · rw [live_le, if_neg hdz] at hl0
      rw [die_other hdz]; exact ha.noTokenDead n i d hn hd (by omega) hg
  case goAlive => intro w df hj; rw [die_other (fun h => C.noTodo _ hj (by simp [Act.sigs, h]))]; exact ha.goAlive w df hj
  case todoTgtAlive =>
    intro a j n hj hjob hobj
    show ((s.die z).sigs (s.ands n).target).alive = true
    rw [die_other (tgt_ne (hl.M2a a j n hj hjob hobj) (andRef_of_todo hj hjob hobj))]; exact ha.todoTgtAlive a j n hj hjob hobj
  case jobTgtAlive =>
    intro w j n hal hj hobj
    obtain ⟨hwz, hj⟩ := die_jobs hj
    rw [die_other hwz] at hal
    have hwl : w < s.nSig := by
      rcases Nat.lt_or_ge w s.nSig with h | h
      · exact h
      · have := (hl.F5 w h).1; rw [hal] at this; cases this
    show ((s.die z).sigs (s.ands n).target).alive = true
    rw [die_other (tgt_ne (hl.M3a w j n hj hobj) (andRef_of_job hwl hal hj hobj))]; exact ha.jobTgtAlive w j n hal hj hobj
  case countdownExact =>
    intro n x y hn hxy
    have w_eq : ∀ i d, (s.ands n).deps0[i]? = some d → wA (s.die z) n i d = wA s n i d := by
      intro i d hd
      unfold wA; rw [die_go, live_le]
      by_cases hdz : d = z
      · subst hdz
        by_cases hc0 : (s.sigs d).jobs.count (.andDone n i) = 0
        · rw [hc0]; simp
        · -- the token sits in the dying operand's job list: it was alive, so not yet triggered
          have hmem : Job.andDone n i ∈ (s.sigs d).jobs := List.count_pos_iff.mp (by omega)
          have hgo : (s.sigs d).go = false := by
            cases hg' : (s.sigs d).go with
            | false => rfl
            | true => have := hh.goNoJobs d hg'; rw [this] at hmem; cases hmem
          have hT := ha.tokenOnce n i d hn hd
          have : (s.sigs d).jobs.count (.andDone n i) ≤ liveA s n i d := by unfold liveA; omega
          rw [show liveA s n i d = 1 by omega, show (s.sigs d).jobs.count (.andDone n i) = 1 by omega, hgo]; simp
      · simp only [hdz, if_false]; rfl
    have hxy' : (s.ands n).deps0 = [x, y] := hxy
    rw [w_eq 0 x (by rw [hxy']; rfl), w_eq 1 y (by rw [hxy']; rfl)]; exact ha.countdownExact n x y hn hxy
  case zeroTriggers => intro n hn hr; rw [die_go]; exact ha.zeroTriggers n hn hr
  case goJustified => intro w hj n hb d hd; rw [die_built] at hb; rw [die_go]; exact ha.goJustified w hj n hb d hd
  case trueOnlyIf =>
    intro w n hw hb hg hdir d hd
    rw [die_built] at hb; rw [die_go] at hg ⊢; rw [die_direct] at hdir
    exact ha.trueOnlyIf w n hw hb hg hdir d hd

theorem reach_invA {s : State} (h : sys.Reach s) : InvA s := by
  refine Sys.Reach.invariant' sys (P := InvA) ?_ ?_ ?_ h
  · intro s hi; cases hi; exact invA_init
  · intro s s' hr ha he
    have hl := reach_invL hr
    have hg := reach_invG hr
    rcases move_of_env hl.heap_end he with ⟨t, new, m⟩ | ⟨t, z, hc⟩
    · exact invA_move hl hg ha m
    · obtain ⟨C, rfl | ⟨_, m⟩⟩ := hl.collect hc
      · exact invA_die hl (reach_invH hr) ha C
      · exact invA_move (invL_die hl C) (invG_die hl hg C) (invA_die hl (reach_invH hr) ha C) m
  · intro s s' t l hr ha hs
    have hl := reach_invL hr
    obtain ⟨hd, new, m⟩ := move_of_step hl.heap_end hs
    exact invA_move hl (reach_invG hr) ha m

end MoThreads.Composite
