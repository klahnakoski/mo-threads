/-
  M2: what one move of the system causes.  `Move s s' t hd new`: thread `t` dropped the head `hd` of its pending list
  (`none`: a move of the environment) and pushed `new`.  Each field names the only possible causes of one kind of change
  ("a job list grows only by the `then` that ran"), and the invariants are carried over a move from these, never from
  which action ran; for the invariants `exec`, `call`, `fire`, `release`, `newLeaf` are unfolded here only (the ranking,
  CompRank.lean, reads `exec` itself: a weight is a row of a table, not a cause).  The collector is `State.die` followed by
  the move `move_weakref`.
-/
import MoThreads.Proofs.CompBase
namespace MoThreads.Composite

theorem usable_spec {s : State} {z : Nat} (h : usable s z = true) : z < s.nSig ∧ (s.sigs z).alive = true := by
  unfold usable at h
  simp only [Bool.and_eq_true, decide_eq_true_eq] at h
  exact ⟨h.1.1, h.1.2⟩

structure Collectable (s : State) (z : Nat) : Prop where
  lt : z < s.nSig
  noTodo : ∀ a, InTodos s a → z ∉ a.sigs
  noOr : ∀ o, o < s.nOr → orRef s o = true → z ∉ (s.ors o).deps
  noAnd : ∀ n, n < s.nAnd → andRef s n = true → z ∉ (s.ands n).deps ∧ (s.ands n).target ≠ z

theorem collectable_spec {s : State} {z : Nat} (h : collectable s z = true) : Collectable s z := by
  simp only [collectable, Bool.and_eq_true, decide_eq_true_eq, Bool.not_eq_eq_eq_not, Bool.not_true, ← Bool.not_eq_true, sigInTodos_true,
    anyBelow_true, not_exists, not_and] at h
  obtain ⟨⟨⟨⟨⟨⟨_, h2⟩, _⟩, _⟩, h5⟩, h6⟩, h7⟩ := h
  exact ⟨h2, h5, fun o ho hr hz => h6 o ho hr (by simp [hz]), fun n hn hr =>
    ⟨fun hz => h7 n hn hr (by simp [hz]), fun hz => h7 n hn hr (by simp [hz])⟩⟩

theorem mem_zipIdx_map_removeJ {ds : List Nat} {o : Nat} {b : Act} {k : Nat}
    (hb : b ∈ (ds.zipIdx k).map (fun (p : Nat × Nat) => Act.removeJ p.1 (.orHook o p.2))) :
      ∃ d i, d ∈ ds ∧ b = .removeJ d (.orHook o i) := by
  obtain ⟨⟨d, i⟩, hm, he⟩ := List.mem_map.mp hb
  have h3 := List.mem_zipIdx hm
  exact ⟨d, i, List.mem_iff_getElem.mpr ⟨i - k, by omega, h3.2.2.symm⟩, he.symm⟩

/-- in how many places the callback `j`, whose home is the job list of `d`, currently is: still to be registered on `d`,
registered, or detached and queued to run -/
def tok (s : State) (d : Nat) (j : Job) : Nat := cnt s (.thenJ d j) + (s.sigs d).jobs.count j + cnt s (.run j)

/-- A cause that a move does not have is closed by the default proof of the field, here and in `Move`, so that where a
move is built only the facts its path causes are written out. -/
structure SigMove (s s' : State) (hd : Option Act) (new : List Act) : Prop where
  nSig    : s.nSig ≤ s'.nSig := by exact Nat.le_refl _
  built   : ∀ z, z < s.nSig → (s'.sigs z).built = (s.sigs z).built := by intros; rfl
  never   : ∀ z, z < s.nSig → (s'.sigs z).never = (s.sigs z).never := by intros; rfl
  alive   : ∀ z, z < s.nSig → (s'.sigs z).alive = (s.sigs z).alive := by intros; rfl
  go      : ∀ z, z < s.nSig → (s.sigs z).go = true →
              (s'.sigs z).go = true ∧ (s'.sigs z).direct = (s.sigs z).direct ∧ (s'.sigs z).jobs = (s.sigs z).jobs := by
              intro _ _ h; exact ⟨h, rfl, rfl⟩
  /-- a signal is written only if the action that ran names it, or (`release`, an allocation) it is inside the new heap -/
  touch   : ∀ z, s'.sigs z = s.sigs z ∨ (∃ a, hd = some a ∧ z ∈ a.sigs) ∨ z < s'.nSig := by intros; exact Or.inl rfl
  gsrc    : ∀ z, z < s.nSig → (s'.sigs z).go = true → (s.sigs z).go = true ∨ ∃ df, hd = some (.goS z df) ∧ (s'.sigs z).direct = df := by
              intro _ _ h; exact Or.inl h
  jcount  : ∀ z j, (s'.sigs z).jobs.count j ≤ (s.sigs z).jobs.count j + (if hd = some (.thenJ z j) then 1 else 0) := by
              intros; exact Nat.le_add_right _ _
  jkeep   : ∀ z j, j ∈ (s.sigs z).jobs → j ∈ (s'.sigs z).jobs ∨ (Act.run j ∈ new ∧ (s'.sigs z).go = true)
              ∨ hd = some (.removeJ z j) := by intro _ _ h; exact Or.inl h
  /-- a callback with a home leaves the job list only by being queued, and is queued only from there or instead of being registered -/
  jbal    : ∀ d j, (∀ z, j ∈ (s.sigs z).jobs → z = d) → (∀ z, hd = some (.thenJ z j) → z = d) → (∀ z, hd ≠ some (.removeJ z j)) →
              (∀ o, j ≠ .orCleanup o) →
              (s'.sigs d).jobs.count j + new.count (.run j) = (s.sigs d).jobs.count j + (if hd = some (.thenJ d j) then 1 else 0) := by
              intros; simp [State.setTodo]
  fresh   : ∀ z, s.nSig ≤ z → z < s'.nSig → z = s.nSig ∧ (s'.sigs z).never = false ∧ (s'.sigs z).go = false ∧ (s'.sigs z).alive = true
              ∧ (s'.sigs z).jobs = [] := by
              intro _ h1 h2; exact absurd h2 (Nat.not_lt.mpr h1)

theorem SigMove.jsrc {s s' : State} {hd : Option Act} {new : List Act} (m : SigMove s s' hd new) (z : Nat) (j : Job)
    (h : j ∈ (s'.sigs z).jobs) :
    j ∈ (s.sigs z).jobs ∨ hd = some (.thenJ z j) := by
  have h1 := List.count_pos_iff.mpr h
  have h2 := m.jcount z j
  split at h2
  · next e => exact .inr e
  · exact .inl (List.count_pos_iff.mp (by omega))

theorem SigMove.one {s s' : State} {hd : Option Act} {new : List Act} {z : Nat} {v : Sig}
    (e1 : s'.sigs = upd s.sigs z v) (e2 : s'.nSig = s.nSig)
    (hz : (∃ a, hd = some a ∧ z ∈ a.sigs) ∨ z < s.nSig)
    (hb : v.built = (s.sigs z).built) (hn : v.never = (s.sigs z).never) (ha : v.alive = (s.sigs z).alive)
    (hg : (s.sigs z).go = true → v.go = true ∧ v.direct = (s.sigs z).direct ∧ v.jobs = (s.sigs z).jobs)
    (gsrc : v.go = true → (s.sigs z).go = true ∨ ∃ df, hd = some (.goS z df) ∧ v.direct = df := by exact Or.inl)
    (jcount : ∀ j, v.jobs.count j ≤ (s.sigs z).jobs.count j + (if hd = some (.thenJ z j) then 1 else 0)
      := by intros; exact Nat.le_add_right _ _)
    (jkeep : ∀ j, j ∈ (s.sigs z).jobs → j ∈ v.jobs ∨ (Act.run j ∈ new ∧ v.go = true) ∨ hd = some (.removeJ z j) := by
      intro _ h; exact Or.inl h)
    (jbal : ∀ d j, (∀ w, j ∈ (s.sigs w).jobs → w = d) → (∀ w, hd ≠ some (.removeJ w j)) →
      (if d = z then v else s.sigs d).jobs.count j + new.count (.run j)
        = (s.sigs d).jobs.count j + (if hd = some (.thenJ d j) then 1 else 0) := by
      intro d _ _ _; split
      · next h => subst h; simp
      · simp) : SigMove s s' hd new where
  nSig := Nat.le_of_eq e2.symm
  built w _ := by rw [e1]; exact upd_proj _ Sig.built hb w
  never w _ := by rw [e1]; exact upd_proj _ Sig.never hn w
  alive w _ := by rw [e1]; exact upd_proj _ Sig.alive ha w
  go w _ h := by
    rw [e1]; unfold upd; split
    · rename_i hw; subst hw; exact hg h
    · exact ⟨h, rfl, rfl⟩
  touch w := by
    rw [e1]; unfold upd; split
    · rename_i hw; subst hw; exact .inr (hz.imp id (e2 ▸ ·))
    · exact .inl rfl
  gsrc w _ h := by
    rw [e1] at h ⊢; unfold upd at h ⊢; split at h
    · rename_i hw; subst hw; rw [if_pos rfl]; exact gsrc h
    · exact Or.inl h
  jcount w j := by
    rw [e1]; unfold upd; split
    · rename_i hw; subst hw; exact jcount j
    · exact Nat.le_add_right _ _
  jkeep w j h := by
    rw [e1]; unfold upd; split
    · rename_i hw; subst hw; exact jkeep j h
    · exact Or.inl h
  jbal d j h1 _ h3 _ := by rw [e1]; exact jbal d j h1 h3
  fresh w h1 h2 := absurd h2 (by omega)

/-- `hF`: the slot about to be allocated has never been used (`InvL.heap_end`, from `InvL.F5`) -/
theorem SigMove.alloc {s s' : State} {hd : Option Act} {new : List Act} {v : Sig} (hF : (s.sigs s.nSig).jobs = [])
    (e1 : s'.sigs = upd s.sigs s.nSig v) (e2 : s'.nSig = s.nSig + 1)
    (hv : v.never = false ∧ v.go = false ∧ v.alive = true ∧ v.jobs = [])
    (hth : ∀ z j, hd ≠ some (.thenJ z j) := by nofun) (hrun : ∀ j, Act.run j ∉ new := by simp) :
    SigMove s s' hd new := by
  have old : ∀ {z}, z < s.nSig → s'.sigs z = s.sigs z := fun h => by rw [e1]; exact upd_other _ _ (Nat.ne_of_lt h)
  have jobs : ∀ z, (s'.sigs z).jobs = (s.sigs z).jobs := fun z => by
    rw [e1]; unfold upd; split
    · rename_i h; rw [h, hv.2.2.2, hF]
    · rfl
  exact {
    nSig := by omega
    built := fun z hz => by rw [old hz]
    never := fun z hz => by rw [old hz]
    alive := fun z hz => by rw [old hz]
    go := fun z hz h => by rw [old hz]; exact ⟨h, rfl, rfl⟩
    gsrc := fun z hz h => Or.inl (by rw [old hz] at h; exact h)
    touch := fun z => by
      rw [e1]; unfold upd; split
      · rename_i h; exact .inr (.inr (by omega))
      · exact .inl rfl
    jcount := fun z j => by rw [jobs]; exact Nat.le_add_right _ _
    jkeep := fun z j h => Or.inl (by rw [jobs]; exact h)
    jbal := fun d j _ _ _ _ => by rw [jobs, List.count_eq_zero.mpr (hrun j), if_neg (hth d j)]
    fresh := fun z h1 h2 => by cases Nat.eq_of_le_of_lt_succ h1 (e2 ▸ h2); rw [e1, upd_same]; exact ⟨rfl, hv⟩ }

def madeBy (s : State) : Option Act → Built
  | some (.orNew _ _ _) => .orOut s.nOr
  | some (.andNew _ _) => .andOut s.nAnd
  | _ => .leaf

/-- what the action that ran has done, as far as an invariant reads it; `new` is what it pushed -/
def Eff (s s' : State) (new : List Act) : Option Act → Prop
  | some (.thenJ d j) => ((s.sigs d).go = true ∧ Act.run j ∈ new) ∨ ((s.sigs d).go = false ∧ j ∈ (s'.sigs d).jobs)
  | some (.goS z _) => ((s.sigs z).never = false → (s'.sigs z).go = true)
      ∧ ((s.sigs z).go = false → (s'.sigs z).go = true → (s'.sigs z).jobs = [])
  | some (.removeJ z j) => (s.sigs z).go = false → (s'.sigs z).jobs = (s.sigs z).jobs.erase j
  | some (.run (.orHook o _)) => Act.goS (s.ors o).target false ∈ new ∨ (s.sigs (s.ors o).target).alive = false
  | some (.run (.orCleanup o)) => new = (s.ors o).deps.zipIdx.map fun (p : Nat × Nat) => Act.removeJ p.1 (.orHook o p.2)
  | some (.run (.andDone n _)) => (s'.ands n).remaining = (s.ands n).remaining - 1
      ∧ ((s.ands n).remaining - 1 = 0 → Act.goS (s.ands n).target false ∈ new)
  | some (.orNew x y w) => s'.nOr = s.nOr + 1 ∧ s'.nSig = s.nSig + 1 ∧ (s'.ors s.nOr).deps0 = [x, y]
      ∧ (s'.ors s.nOr).deps = [x, y] ∧ (s'.ors s.nOr).target = s.nSig
      ∧ new = [.thenJ x (.orHook s.nOr 0), .thenJ y (.orHook s.nOr 1), .thenJ s.nSig (.orCleanup s.nOr), .ret s.nSig w]
  | some (.andNew x y) => s'.nAnd = s.nAnd + 1 ∧ s'.nSig = s.nSig + 1 ∧ (s'.ands s.nAnd).deps0 = [x, y]
      ∧ (s'.ands s.nAnd).deps = [x, y] ∧ (s'.ands s.nAnd).target = s.nSig
      ∧ (s'.ands s.nAnd).remaining = 2
      ∧ new = [.thenJ x (.andDone s.nAnd 0), .thenJ y (.andDone s.nAnd 1), .thenJ s.nSig (.andCleanup s.nAnd), .ret s.nSig false]
  | _ => True

/-- Where a newly pending action comes from.  Last case: the signals of any other action are those of the action that ran
(operands stay operands), signals the program holds, or the signal just made. -/
def Src (s s' : State) (hd : Option Act) : Act → Prop
  | .run j => (∃ z df, hd = some (.goS z df) ∧ j ∈ (s.sigs z).jobs ∧ (s'.sigs z).go = true)
      ∨ (∃ d, hd = some (.thenJ d j) ∧ (s.sigs d).go = true)
      ∨ (hd = none ∧ ∃ o, j = .orCleanup o ∧ o < s.nOr ∧ (s.sigs (s.ors o).target).alive = false)
  | .goS z df => (df = true ∧ z < s.nSig ∧ (s.sigs z).alive = true)
      ∨ (df = false ∧ ∃ o i, hd = some (.run (.orHook o i)) ∧ z = (s.ors o).target ∧ (s.sigs z).alive = true)
      ∨ (df = false ∧ ∃ n i, hd = some (.run (.andDone n i)) ∧ z = (s.ands n).target ∧ (s.ands n).remaining - 1 = 0)
  | .removeJ _ j => ∃ o i, j = .orHook o i ∧ hd = some (.run (.orCleanup o))
  | .thenJ d j => (∃ k, j = .user k ∧ d < s.nSig ∧ (s.sigs d).alive = true)
      ∨ (∃ x y w, hd = some (.orNew x y w) ∧ j.orObj = some s.nOr)
      ∨ (∃ x y, hd = some (.andNew x y) ∧ j.andObj = some s.nAnd)
  | b => ∀ z, z ∈ b.sigs → (∃ a, hd = some a ∧ z ∈ a.sigs ∧ (z ∈ b.operands → z ∈ a.operands)) ∨ (z < s.nSig ∧ (s.sigs z).alive = true)
      ∨ (z < s'.nSig ∧ z ∉ b.operands)

structure Move (s s' : State) (t : Nat) (hd : Option Act) (new : List Act) : Prop extends SigMove s s' hd new where
  td      : TodoChg s s' t hd new
  ors     : ∀ o, o < s.nOr → (s'.ors o).deps0 = (s.ors o).deps0 ∧ (s'.ors o).target = (s.ors o).target
              ∧ ((s'.ors o).deps = (s.ors o).deps ∨ (s'.ors o).deps = [] ∧ hd = some (.run (.orCleanup o)))
                := by intros; exact ⟨rfl, rfl, Or.inl rfl⟩
  ands    : ∀ n, n < s.nAnd → (s'.ands n).deps0 = (s.ands n).deps0 ∧ (s'.ands n).target = (s.ands n).target
              ∧ ((s'.ands n).deps = (s.ands n).deps ∨ (s'.ands n).deps = [] ∧ hd = some (.run (.andCleanup n)))
                := by intros; exact ⟨rfl, rfl, Or.inl rfl⟩
  remSame : ∀ n, n < s.nAnd → (∀ i, hd ≠ some (.run (.andDone n i))) → (s'.ands n).remaining = (s.ands n).remaining := by intros; rfl
  nOr     : s'.nOr = s.nOr ∨ ∃ x y w, hd = some (.orNew x y w) := by exact Or.inl rfl
  nAnd    : s'.nAnd = s.nAnd ∨ ∃ x y, hd = some (.andNew x y) := by exact Or.inl rfl
  freshBuilt : ∀ z, s.nSig ≤ z → z < s'.nSig → (s'.sigs z).built = madeBy s hd := by intro _ h1 h2; exact absurd h2 (Nat.not_lt.mpr h1)
  eff     : Eff s s' new hd := by exact True.intro
  src     : ∀ b, b ∈ new → Src s s' hd b := by intro _ h; cases h

namespace Move
variable {s s' : State} {t : Nat} {hd : Option Act} {new : List Act}

theorem ran (m : Move s s' t hd new) {a : Act} (e : hd = some a) : Eff s s' new (some a) := e ▸ m.eff

theorem tok (m : Move s s' t hd new) (d : Nat) (j : Job) (h1 : ∀ z, j ∈ (s.sigs z).jobs → z = d) (h2 : ∀ z, InTodos s (.thenJ z j) → z = d)
    (h3 : ∀ z, hd ≠ some (.removeJ z j)) (h4 : ∀ o, j ≠ .orCleanup o) :
    tok s' d j + (if hd = some (.run j) then 1 else 0) = tok s d j + new.count (.thenJ d j) := by
  have := m.td.cnt (.thenJ d j)
  have := m.td.cnt (.run j)
  have := m.jbal d j h1 (fun z he => h2 z (m.td.head he)) h3 h4
  unfold Composite.tok; omega

theorem rose (m : Move s s' t hd new) {z : Nat} (hz : z < s.nSig) (h0 : (s.sigs z).go = false) (h1 : (s'.sigs z).go = true) :
    ∃ df, hd = some (.goS z df) ∧ (s'.sigs z).jobs = [] := by
  obtain ⟨df, e, _⟩ := (m.gsrc z hz h1).resolve_left (by rw [h0]; nofun)
  exact ⟨df, e, (m.ran e).2 h0 h1⟩

theorem then_cases (m : Move s s' t hd new) {d : Nat} {j : Job} (hp : InTodos s (.thenJ d j)) :
    InTodos s' (.thenJ d j) ∨ ((s.sigs d).go = true ∧ Act.run j ∈ new) ∨ ((s.sigs d).go = false ∧ j ∈ (s'.sigs d).jobs) := by
  by_cases e : hd = some (.thenJ d j)
  · exact .inr (m.ran e)
  · exact .inl (m.td.keep hp e)

theorem nOr_le (m : Move s s' t hd new) : s.nOr ≤ s'.nOr :=
  m.nOr.elim (fun h => Nat.le_of_eq h.symm) fun ⟨_, _, _, h⟩ => (m.ran h).1 ▸ Nat.le_succ _

theorem nAnd_le (m : Move s s' t hd new) : s.nAnd ≤ s'.nAnd :=
  m.nAnd.elim (fun h => Nat.le_of_eq h.symm) fun ⟨_, _, h⟩ => (m.ran h).1 ▸ Nat.le_succ _

theorem and_cases (m : Move s s' t hd new) {n : Nat} (hn : n < s'.nAnd) : n < s.nAnd ∨ (n = s.nAnd ∧ ∃ x y, hd = some (.andNew x y)) := by
  rcases m.nAnd with h | ⟨x, y, h⟩
  · exact Or.inl (h ▸ hn)
  · have := (m.ran h).1
    by_cases hlt : n < s.nAnd
    · exact Or.inl hlt
    · exact Or.inr ⟨by omega, x, y, h⟩

theorem or_cases (m : Move s s' t hd new) {o : Nat} (ho : o < s'.nOr) : o < s.nOr ∨ (o = s.nOr ∧ ∃ x y w, hd = some (.orNew x y w)) := by
  rcases m.nOr with h | ⟨x, y, w, h⟩
  · exact Or.inl (h ▸ ho)
  · have := (m.ran h).1
    by_cases hlt : o < s.nOr
    · exact Or.inl hlt
    · exact Or.inr ⟨by omega, x, y, w, h⟩

end Move

theorem move_exec {s s' : State} {t : Nat} {a : Act} {rest : List Act} (hF : (s.sigs s.nSig).jobs = []) (ht : t < NT)
    (hs : s.todo t = a :: rest)
    (he : exec s t a rest = some s') : ∃ new, Move s s' t (some a) new := by
  have td : ∀ {s' new}, s'.todo = upd s.todo t (new ++ rest) → TodoChg s s' t (some a) new := .step ht hs
  cases a with
  | orTest1 x y w | orTest2 x y w =>
    simp only [exec] at he; split at he <;> cases he
    · exact ⟨_, { td := td rfl, src := List.forall_mem_singleton.mpr nofun }⟩
    · exact ⟨_, { td := td rfl, src := List.forall_mem_singleton.mpr fun z hz => .inl ⟨_, rfl, hz, id⟩ }⟩
  | retDone => cases he; exact ⟨[], { td := td rfl }⟩
  | waitS c => simp only [exec] at he; split at he <;> cases he; exact ⟨[], { td := td rfl }⟩
  | ret c w =>
    simp only [exec] at he; split at he <;> cases he
    · exact ⟨[.waitS c], { td := td rfl, src := List.forall_mem_singleton.mpr fun z hz => .inl ⟨_, rfl, hz, nofun⟩ }⟩
    · -- `held` is nothing a move speaks of
      exact ⟨[], { toSigMove := .one (z := c) rfl rfl (.inl ⟨_, rfl, .head _⟩) rfl rfl rfl (fun h => ⟨h, rfl, rfl⟩), td := td rfl }⟩
  | thenJ d j =>
    simp only [exec] at he; split at he <;> cases he
    · rename_i hgo
      exact ⟨[.run j], {
        td := td rfl
        eff := .inl ⟨hgo, List.mem_singleton_self _⟩
        src := List.forall_mem_singleton.mpr (.inr (.inl ⟨d, rfl, hgo⟩))
        jbal := fun d' j' _ h2 _ _ => by
          by_cases hj : j = j'
          · cases hj; cases h2 d rfl; simp [State.setTodo]
          · simp [State.setTodo, hj] }⟩
    · rename_i hgo
      have hgo : (s.sigs d).go = false := by simpa using hgo
      exact ⟨[], {
        toSigMove := .one (z := d) rfl rfl (.inl ⟨_, rfl, .head _⟩) rfl rfl rfl (fun h => by rw [hgo] at h; cases h)
          (jcount := fun j' => by
            rw [List.count_append, List.count_singleton]
            by_cases hj : j = j' <;> simp [hj])
          (jkeep := fun _ h => Or.inl (List.mem_append_left _ h))
          (jbal := fun d' j' _ _ => by
            split
            · rename_i hz; subst hz; by_cases hj : j = j' <;> simp [hj, List.count_append]
            · rename_i hz; simp; exact fun h => absurd h.symm hz)
        td := td rfl
        eff := .inr ⟨hgo, by simp [State.setTodo, State.setSig, upd]⟩ }⟩
  | goS x df =>
    simp only [exec] at he; split at he <;> cases he
    · rename_i hgn
      exact ⟨[], { td := td rfl
                   eff := ⟨fun hn => by show (s.sigs x).go = true; simpa [hn] using hgn, fun h1 h2 => nomatch h1.symm.trans h2⟩ }⟩
    · rename_i hgn
      simp only [Bool.or_eq_true, not_or, Bool.not_eq_true] at hgn
      exact ⟨(s.sigs x).jobs.map .run, {
        toSigMove := .one (z := x) rfl rfl (.inl ⟨_, rfl, .head _⟩) rfl rfl rfl (fun h => by rw [hgn.1] at h; cases h)
          (gsrc := fun _ => Or.inr ⟨df, rfl, rfl⟩) (jcount := fun _ => Nat.zero_le _)
          (jkeep := fun j h => Or.inr (Or.inl ⟨List.mem_map.mpr ⟨j, h, rfl⟩, rfl⟩))
          (jbal := fun d j h1 _ => by
            rw [count_map_run]; split
            · rename_i hz; subst hz; simp
            · rename_i hz; simp [List.count_eq_zero.mpr (fun h => hz (h1 x h).symm)])
        td := td rfl
        eff := by simp [Eff, State.setTodo, State.setSig, upd]
        src := fun _ hm => by
          obtain ⟨j, hj, rfl⟩ := List.mem_map.mp hm
          exact Or.inl ⟨x, df, rfl, hj, by simp [State.setTodo, State.setSig, upd]⟩ }⟩
  | removeJ d j =>
    simp only [exec] at he; split at he <;> cases he
    · rename_i hgo
      exact ⟨[], { td := td rfl, eff := fun hg => by rw [hgo] at hg; cases hg }⟩
    · exact ⟨[], {
        toSigMove := .one (z := d) rfl rfl (.inl ⟨_, rfl, .head _⟩) rfl rfl rfl (fun h => by simp_all)
          (jcount := fun _ => Nat.le_trans (List.erase_sublist.count_le _) (Nat.le_add_right _ _))
          (jkeep := fun j' h => by
            by_cases hj : j' = j
            · rw [hj]; exact Or.inr (Or.inr rfl)
            · exact Or.inl ((List.mem_erase_of_ne hj).mpr h))
          (jbal := fun d' j' _ h3 => by
            split
            · rename_i hz; subst hz
              have hj : j' ≠ j := fun h => h3 d' (by rw [h])
              simp [List.count_erase_of_ne hj]
            · simp)
        td := td rfl
        eff := fun _ => by simp [State.setTodo, State.setSig, upd] }⟩
  | run j =>
    cases j with
    | user k => cases he; exact ⟨[], { td := td rfl }⟩
    | orHook o i =>
      simp only [exec] at he; split at he <;> cases he
      · rename_i hal
        exact ⟨_, {
          td := td rfl
          eff := .inl (List.mem_singleton_self _)
          src := List.forall_mem_singleton.mpr (.inr (.inl ⟨rfl, o, i, rfl, rfl, hal⟩)) }⟩
      · rename_i hal
        exact ⟨[], { td := td rfl, eff := .inr (by simpa using hal) }⟩
    | orCleanup o =>
      cases he
      exact ⟨_, {
        ors := fun o' _ => by
          simp only [State.setTodo, upd]; split
          · rename_i h; subst h; exact ⟨rfl, rfl, .inr ⟨rfl, rfl⟩⟩
          · exact ⟨rfl, rfl, .inl rfl⟩
        td := td rfl
        eff := rfl
        src := fun _ hm => by obtain ⟨_, i, _, rfl⟩ := mem_zipIdx_map_removeJ hm; exact ⟨o, i, rfl, rfl⟩
        jbal := fun _ j _ _ _ _ => by
          have : ((s.ors o).deps.zipIdx.map (fun (p : Nat × Nat) => Act.removeJ p.1 (.orHook o p.2))).count (.run j) = 0 :=
            List.count_eq_zero.mpr (fun hm => by obtain ⟨_, _, _, h⟩ := mem_zipIdx_map_removeJ hm; cases h)
          simp [State.setTodo, this] }⟩
    | andDone n i =>
      cases he
      exact ⟨if (s.ands n).remaining - 1 = 0 then [.goS (s.ands n).target false] else [], {
        ands := fun n' _ => by
          simp only [State.setTodo, upd]; split
          · next h => rw [h]; exact ⟨rfl, rfl, .inl rfl⟩
          · exact ⟨rfl, rfl, .inl rfl⟩
        td := td rfl
        remSame := fun n' _ h => by
          simp only [State.setTodo, upd]; split
          · rename_i hn; subst hn; exact absurd rfl (h i)
          · rfl
        eff := ⟨by simp [State.setTodo, upd], fun h0 => by rw [if_pos h0]; exact List.mem_singleton_self _⟩
        src := fun _ hm => by
          split at hm
          · next hr => cases List.mem_singleton.mp hm; exact Or.inr (Or.inr ⟨rfl, n, i, rfl, rfl, hr⟩)
          · cases hm
        jbal := fun _ _ _ _ _ _ => by split <;> simp [State.setTodo] }⟩
    | andCleanup n =>
      cases he
      exact ⟨[], {
        ands := fun n' _ => by
          simp only [State.setTodo, upd]; split
          · rename_i h; subst h; exact ⟨rfl, rfl, .inr ⟨rfl, rfl⟩⟩
          · exact ⟨rfl, rfl, .inl rfl⟩
        td := td rfl
        remSame := fun n' _ _ => by
          simp only [State.setTodo, upd]; split
          · next h => rw [h]
          · rfl }⟩
  | orNew x y w =>
    cases he
    exact ⟨[.thenJ x (.orHook s.nOr 0), .thenJ y (.orHook s.nOr 1), .thenJ s.nSig (.orCleanup s.nOr), .ret s.nSig w], {
      toSigMove := .alloc hF rfl rfl ⟨rfl, rfl, rfl, rfl⟩
      td := td rfl
      ors := fun o ho => by simp [State.setTodo, upd, Nat.ne_of_lt ho]
      nOr := Or.inr ⟨x, y, w, rfl⟩
      freshBuilt := fun z h1 h2 => by cases Nat.eq_of_le_of_lt_succ h1 h2; simp [State.setTodo, upd, freshSig, madeBy]
      eff := by simp [Eff, State.setTodo, upd]
      src := fun b hb => by
        simp only [List.mem_cons, List.mem_nil_iff, or_false] at hb
        rcases hb with rfl | rfl | rfl | rfl
        · exact Or.inr (Or.inl ⟨x, y, w, rfl, rfl⟩)
        · exact Or.inr (Or.inl ⟨x, y, w, rfl, rfl⟩)
        · exact Or.inr (Or.inl ⟨x, y, w, rfl, rfl⟩)
        · exact fun z hz => by cases List.mem_singleton.mp hz; exact .inr (.inr ⟨Nat.lt_succ_self _, nofun⟩) }⟩
  | andNew x y =>
    cases he
    exact ⟨[.thenJ x (.andDone s.nAnd 0), .thenJ y (.andDone s.nAnd 1), .thenJ s.nSig (.andCleanup s.nAnd), .ret s.nSig false], {
      toSigMove := .alloc hF rfl rfl ⟨rfl, rfl, rfl, rfl⟩
      td := td rfl
      ands := fun n hn => by simp [State.setTodo, upd, Nat.ne_of_lt hn]
      remSame := fun n hn _ => by simp [State.setTodo, upd, Nat.ne_of_lt hn]
      nAnd := Or.inr ⟨x, y, rfl⟩
      freshBuilt := fun z h1 h2 => by cases Nat.eq_of_le_of_lt_succ h1 h2; simp [State.setTodo, upd, freshSig, madeBy]
      eff := by simp [Eff, State.setTodo, upd]
      src := fun b hb => by
        simp only [List.mem_cons, List.mem_nil_iff, or_false] at hb
        rcases hb with rfl | rfl | rfl | rfl
        · exact Or.inr (Or.inr ⟨x, y, rfl, rfl⟩)
        · exact Or.inr (Or.inr ⟨x, y, rfl, rfl⟩)
        · exact Or.inr (Or.inr ⟨x, y, rfl, rfl⟩)
        · exact fun z hz => by cases List.mem_singleton.mp hz; exact .inr (.inr ⟨Nat.lt_succ_self _, nofun⟩) }⟩

theorem move_call {s s' : State} {t : Nat} {op : Op} (hc : call s t op = some s') : ∃ a, Move s s' t none [a] := by
  unfold call at hc
  split at hc
  · rename_i hcond
    obtain ⟨ht, hempty⟩ := hcond
    have td : ∀ a, TodoChg s (s.setTodo t [a]) t none [a] := fun a => .push ht (by rw [hempty]; rfl)
    have two : ∀ {x y : Nat}, (usable s x && usable s y) = true →
        ∀ z, z ∈ [x, y] → z < s.nSig ∧ (s.sigs z).alive = true := fun hu z hz => by
      simp only [Bool.and_eq_true] at hu
      simp only [List.mem_cons, List.mem_nil_iff, or_false] at hz
      rcases hz with rfl | rfl
      · exact usable_spec hu.1
      · exact usable_spec hu.2
    cases op with
    | mkOr x y | mkAnd x y | waitOr x y =>
      simp only at hc; split at hc <;> cases hc
      rename_i hu
      exact ⟨_, { td := td _, src := List.forall_mem_singleton.mpr fun z hz => .inr (.inl (two hu z hz)) }⟩
    | go x =>
      simp only at hc; split at hc <;> cases hc
      rename_i hu
      exact ⟨_, { td := td _, src := List.forall_mem_singleton.mpr (.inl ⟨rfl, usable_spec hu⟩) }⟩
    | thenUser z k =>
      simp only at hc; split at hc <;> cases hc
      rename_i hu
      exact ⟨_, { td := td _, src := List.forall_mem_singleton.mpr (.inl ⟨_, rfl, usable_spec hu⟩) }⟩
    | wait x =>
      simp only at hc; split at hc <;> cases hc
      rename_i hu
      exact ⟨_, { td := td _, src := List.forall_mem_singleton.mpr fun z hz => by
                    cases List.mem_singleton.mp hz; exact .inr (.inl (usable_spec hu)) }⟩
  · cases hc

theorem move_fire {s s' : State} {t z : Nat} (hc : fire s t z = some s') : Move s s' t none [.goS z true] := by
  unfold fire at hc
  split at hc
  · rename_i hcond
    obtain ⟨ht, hempty, hz, hal, _⟩ := hcond
    cases hc
    exact { td := .push ht (by rw [hempty]; rfl), src := List.forall_mem_singleton.mpr (.inl ⟨rfl, hz, hal⟩) }
  · cases hc

theorem move_release {s s' : State} {z : Nat} (hc : release s z = some s') : Move s s' 0 none [] := by
  unfold release at hc
  split at hc
  · rename_i h; cases hc
    exact { toSigMove := .one (z := z) rfl rfl (.inr h.2.1) rfl rfl rfl (fun h => ⟨h, rfl, rfl⟩), td := .same rfl }
  · cases hc

theorem move_newLeaf {s : State} (hF : (s.sigs s.nSig).jobs = []) : Move s (newLeaf s) 0 none [] :=
  { toSigMove := .alloc hF rfl rfl ⟨rfl, rfl, rfl, rfl⟩, td := .same rfl
    freshBuilt := fun z h1 h2 => by cases Nat.eq_of_le_of_lt_succ h1 h2; simp [newLeaf, upd, freshSig, madeBy] }

/-- the weak reference to a dead composite is cleared: its callback is queued -/
theorem move_weakref {s : State} {t o : Nat} (ht : t < NT) (ho : o < s.nOr) (hd : (s.sigs (s.ors o).target).alive = false) :
    Move s (s.setTodo t (.run (.orCleanup o) :: s.todo t)) t none [.run (.orCleanup o)] :=
  { td := .push ht rfl
    src := List.forall_mem_singleton.mpr (.inr (.inr ⟨rfl, o, rfl, ho, hd⟩))
    jbal := fun _ j _ _ _ hj => by simp [State.setTodo, Ne.symm (hj o)] }

theorem step_spec {s s' : State} {t : Nat} {l : Label} (hs : step s t = some (s', l)) :
    ∃ a rest, t < NT ∧ s.todo t = a :: rest ∧ exec s t a rest = some s' ∧ l = .act a := by
  unfold step at hs
  split at hs
  · rename_i ht
    cases htd : s.todo t with
    | nil => rw [htd] at hs; cases hs
    | cons a rest =>
      rw [htd] at hs; simp only at hs
      cases he : exec s t a rest with
      | none => rw [he] at hs; cases hs
      | some s2 => rw [he] at hs; cases hs; exact ⟨a, rest, ht, rfl, he, rfl⟩
  · cases hs

theorem move_of_step {s s' : State} {t : Nat} {l : Label} (hF : (s.sigs s.nSig).jobs = []) (hs : step s t = some (s', l)) :
    ∃ a new, Move s s' t (some a) new := by
  obtain ⟨a, rest, ht, htd, he, _⟩ := step_spec hs
  obtain ⟨new, m⟩ := move_exec hF ht htd he
  exact ⟨a, new, m⟩

/-- the object `z` is freed -/
def State.die (s : State) (z : Nat) : State := s.setSig z { s.sigs z with alive := false, jobs := [] }

theorem die_other {s : State} {z w : Nat} (h : w ≠ z) : (s.die z).sigs w = s.sigs w := upd_other _ _ h
theorem die_self (s : State) (z : Nat) : (s.die z).sigs z = { s.sigs z with alive := false, jobs := [] } := upd_same ..

theorem die_proj {β : Type} (p : Sig → β) (h : ∀ v : Sig, p { v with alive := false, jobs := [] } = p v) (s : State) (z w : Nat) :
    p ((s.die z).sigs w) = p (s.sigs w) := upd_proj _ p (h _) w
theorem die_go (s : State) (z w : Nat) : ((s.die z).sigs w).go = (s.sigs w).go := die_proj Sig.go (fun _ => rfl) s z w
theorem die_built (s : State) (z w : Nat) : ((s.die z).sigs w).built = (s.sigs w).built := die_proj Sig.built (fun _ => rfl) s z w
theorem die_never (s : State) (z w : Nat) : ((s.die z).sigs w).never = (s.sigs w).never := die_proj Sig.never (fun _ => rfl) s z w
theorem die_direct (s : State) (z w : Nat) : ((s.die z).sigs w).direct = (s.sigs w).direct := die_proj Sig.direct (fun _ => rfl) s z w
theorem die_dead {s : State} {z w : Nat} (h : (s.sigs w).alive = false) : ((s.die z).sigs w).alive = false := by
  by_cases e : w = z
  · rw [e, die_self]
  · rw [die_other e]; exact h
theorem die_jobs {s : State} {z w : Nat} {j : Job} (h : j ∈ ((s.die z).sigs w).jobs) : w ≠ z ∧ j ∈ (s.sigs w).jobs := by
  by_cases e : w = z
  · rw [e, die_self] at h; cases h
  · exact ⟨e, die_other e ▸ h⟩

theorem collect_spec {s s' : State} {t z : Nat} (hc : collect s t z = some s') :
    Collectable s z ∧ ((s' = s.die z ∧ ∀ o, (s.sigs z).built ≠ .orOut o) ∨
      ∃ o, (s.sigs z).built = .orOut o ∧ t < NT ∧ s' = (s.die z).setTodo t (.run (.orCleanup o) :: (s.die z).todo t)) := by
  unfold collect at hc
  split at hc
  · rename_i h
    refine ⟨collectable_spec h.2, ?_⟩
    split at hc <;> cases hc
    · rename_i o hb; exact Or.inr ⟨o, hb, h.1, rfl⟩
    · rename_i hb; exact Or.inl ⟨rfl, hb⟩
  · cases hc

theorem move_of_env {s s' : State} (hF : (s.sigs s.nSig).jobs = []) (he : sys.env s s') :
    (∃ t new, Move s s' t none new) ∨ ∃ t z, collect s t z = some s' := by
  rcases he with ⟨t, op, hc⟩ | rfl | ⟨t, z, hc⟩ | ⟨z, hc⟩ | hc
  · obtain ⟨a, m⟩ := move_call hc; exact .inl ⟨t, _, m⟩
  · exact .inl ⟨0, _, move_newLeaf hF⟩
  · exact .inl ⟨t, _, move_fire hc⟩
  · exact .inl ⟨0, _, move_release hc⟩
  · exact .inr hc

end MoThreads.Composite
