/-
  M5 (ThreadTree): what a thread that cannot move is waiting for (L2 for C10).  `quiescent_stopped`: where nobody can
  move, a thread whose target has ended is `stopped` unless the target of one of its registered descendants is still
  running.  From `Tree`: the join work of a shutdown block only names registered descendants of its thread (`jw`, `finC`);
  a registered thread that does not exist yet has a parent in the middle of spawning it (`unborn`); registered children
  are younger than their parent (`lt`).
-/
import MoThreads.Proofs.TreeRank
namespace MoThreads.ThreadTree
open MoThreads

theorem desc_congr {s s' : State} (he : s'.everChild = s.everChild) {p d : Nat} (h : Desc s p d) : Desc s' p d :=
  desc_mono (fun p c hc => by rw [he]; exact hc) h

theorem desc_lt {s : State} (hd : Tree s) {a b : Nat} (h : Desc s a b) : a < b ∧ b < s.nextId := by
  induction h with
  | child hm => exact hd.lt _ _ hm
  | step hm _ ih => have := hd.lt _ _ hm; exact ⟨by omega, ih.2⟩

theorem desc_last {s : State} {a b : Nat} (h : Desc s a b) : ∃ p, (p = a ∨ Desc s a p) ∧ b ∈ s.everChild p := by
  induction h with
  | child hm => exact ⟨_, Or.inl rfl, hm⟩
  | step hm _ ih =>
    obtain ⟨p, hp, hb⟩ := ih
    refine ⟨p, Or.inr ?_, hb⟩
    rcases hp with rfl | hp
    · exact Desc.child hm
    · exact Desc.step hm hp

theorem quiescent_stopped {s : State} (h : sys.Reach s) (hq : sys.Quiescent s) :
    ∀ n t, s.nextId - t ≤ n → (s.phase t).post = true → (∀ u, Desc s t u → s.phase u ≠ .running) → s.stopped t = true := by
  have hi := reach_inv h
  have hd := reach_tree h
  intro n
  induction n with
  | zero =>
    intro t hn hpost _
    have : t < s.nextId := lt_nextId hi (by intro hab; rw [hab] at hpost; cases hpost)
    omega
  | succ n ih =>
    intro t hn hpost hdesc
    have hstep : step s t = none := hq t
    cases hph : s.phase t with
    | absent | created | running => rw [hph] at hpost; cases hpost
    | linger | dead => exact (hi.stP t).mpr (by rw [hph]; rfl)
    | peek | fin1 | fin4 | fin5 | fin6 => unfold step at hstep; rw [hph] at hstep; cases hstep
    | fin2 cs =>
      obtain ⟨w, hc⟩ := hd.fin2C t cs hph
      unfold step at hstep; rw [hph] at hstep; simp only [hc] at hstep
      cases w with
      | nil => cases hstep
      | cons a r => unfold stepStop at hstep; cases a <;> cases hstep
    | fin3 cs =>
      obtain ⟨work, raised, hc⟩ := hi.fin3C t cs hph
      have hw := hd.jw t cs work none raised (by rw [hc]; rfl)
      unfold step at hstep; rw [hph] at hstep; simp only [hc] at hstep
      cases work with
      | nil => cases hstep
      | cons a r =>
        obtain ⟨v, rfl, hsv, _⟩ := stepJoin_none hstep
        have hcs : ∀ c, c ∈ cs → Desc s t c := fun c hc => .child (hd.finC t cs (by rw [hph]; rfl) c hc)
        have hv : Desc s t v := (hw (.wait v) (List.mem_cons_self ..)).desc hcs
        have hlt := desc_lt hd hv
        -- v has not stopped: it is not absent, not created (it could move), not running: its target has ended
        have hvpost : (s.phase v).post = true := by
          cases hpv : s.phase v with
          | absent =>
            obtain ⟨p, hp, hb⟩ := desc_last hv
            have hrun := hi.spawnR p (by rw [hd.unborn p v hb hpv]; rfl)
            rcases hp with rfl | hp
            · rw [hph] at hrun; cases hrun
            · exact absurd hrun (hdesc p hp)
          | created => have : step s v = none := hq v; unfold step at this; rw [hpv] at this; cases this
          | running => exact absurd hpv (hdesc v hv)
          | _ => rfl
        have := ih v (by omega) hvpost (fun u hu => hdesc u (desc_trans hv hu))
        rw [this] at hsv; cases hsv

end MoThreads.ThreadTree
