/-
  M10 (PyProxy): a ranking function for runs without new calls.  Every request line consumed by the worker and
  every reply line consumed by the reader pays for the steps it causes.
-/
import MoThreads.Model.PyProxy
namespace MoThreads.PyProxy

def rkC : CPC → Nat
  | .idle _ => 0
  | .c0 _ => 24 | .c1 _ => 23 | .c2 _ _ => 22 | .c3 _ _ => 21 | .c4 _ _ => 20 | .c5 _ => 7
  | .c6 => 6 | .c6b => 5 | .c7 => 5 | .c8 _ => 4 | .c9 _ => 3 | .c10 _ => 2 | .c11 _ => 1

def rkR : RPC → Nat
  | .r0 => 0 | .r1 _ => 3 | .e1 => 3 | .r2 => 2

def rkW : WPC → Nat
  | .w0 => 0 | .w1 _ => 9

def rank (N : Nat) (s : State) : Nat :=
  sumTo N (fun t => rkC (s.cpc t)) + 12 * s.inQ.length + 4 * s.outQ.length + rkR s.rpc + rkW s.wpc

def Below (N : Nat) (s : State) : Prop := ∀ t, N ≤ t → rkC (s.cpc t) = 0

/-- the pipeline's share of the rank.  A queued request is worth 12: the worker's two steps (it weighs 9 between them)
and up to two reply lines of 4; a reply line is worth 4: the reader's pop and the two steps that may follow it.
`stdin.add` (c4 → c5) pays the 12 out of the caller's own 20 - 7. -/
def rkP (s : State) : Nat := 12 * s.inQ.length + 4 * s.outQ.length + rkR s.rpc + rkW s.wpc

theorem rank_stepC {s s' : State} {t : Nat} {l : Label} (hs : stepC s t = some (s', l)) :
    (∀ u, u ≠ t → s'.cpc u = s.cpc u) ∧ rkC (s'.cpc t) < rkC (s.cpc t) ∧ rkP s' + rkC (s'.cpc t) < rkP s + rkC (s.cpc t) := by
  unfold stepC at hs
  repeat' split at hs
  all_goals cases hs
  all_goals refine ⟨fun u hu => if_neg hu, ?_⟩
  all_goals simp [rkP, State.setC, rkC, *]
  all_goals omega

theorem rank_stepR {s s' : State} {l : Label} (hs : stepR s = some (s', l)) : s'.cpc = s.cpc ∧ rkP s' < rkP s := by
  unfold stepR at hs
  repeat' split at hs
  all_goals cases hs
  all_goals refine ⟨rfl, ?_⟩
  all_goals simp [rkP, rkR, *]
  all_goals omega

theorem rank_stepW {s s' : State} {l : Label} (hs : stepW s = some (s', l)) : s'.cpc = s.cpc ∧ rkP s' < rkP s := by
  unfold stepW at hs
  repeat' split at hs
  all_goals cases hs
  all_goals refine ⟨rfl, ?_⟩
  all_goals simp [rkP, rkW, *]
  all_goals omega

theorem run_length_le_rank {N : Nat} {s s' : State} {tr : List (Nat × Label)} (hb : Below N s) (r : sys.Run s tr s') :
    tr.length + rank N s' ≤ rank N s := by
  have := Sys.Run.length_le_sumTo sys (fun s t => rkC (s.cpc t)) rkP (fun _ => True) (fun _ _ _ _ _ _ => trivial)
    (fun s s' t l _ hs => by
      change step s t = some (s', l) at hs
      unfold step at hs
      split at hs
      · obtain ⟨h1, h2⟩ := rank_stepR hs; rw [h1]; exact ⟨by omega, id, fun _ _ => rfl⟩
      split at hs
      · obtain ⟨h1, h2⟩ := rank_stepW hs; rw [h1]; exact ⟨by omega, id, fun _ _ => rfl⟩
      · obtain ⟨h1, h2, h3⟩ := rank_stepC hs
        exact ⟨by omega, by omega, fun u hu => by rw [h1 u hu]⟩)
    r trivial hb
  simp only [rank, rkP] at this ⊢; omega

end MoThreads.PyProxy
