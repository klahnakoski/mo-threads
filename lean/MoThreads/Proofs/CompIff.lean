/-
  M2: the invariant `InvG` behind "a composite agrees with its operands at quiescence" (C03: OR): the trigger of a true
  operand is on its way (`HD`), and a composite not triggered directly is true only if an operand is.
-/
import MoThreads.Proofs.CompHook
namespace MoThreads.Composite

theorem idx_of_pair {x y d i : Nat} (h : [x, y][i]? = some d) : (i = 0 ∧ d = x) ∨ (i = 1 ∧ d = y) := by
  match i with
  | 0 => simp at h; exact Or.inl ⟨rfl, h.symm⟩
  | 1 => simp at h; exact Or.inr ⟨rfl, h.symm⟩
  | k + 2 => simp at h

/-- what a pending action guarantees about the operands of the OrSignal it belongs to -/
def ActG (s : State) : Act → Prop
  | .run (.orHook o i) => ∃ d, (s.ors o).deps0[i]? = some d ∧ (s.sigs d).go = true
  | .goS z false => ∀ o, (s.sigs z).built = .orOut o → ∃ d, d ∈ (s.ors o).deps0 ∧ (s.sigs d).go = true
  | .removeJ _ (.orHook o _) => (s.sigs (s.ors o).target).go = true ∨ (s.sigs (s.ors o).target).alive = false
  | _ => True

/-- for operand `d` (position `i`) of OrSignal `o` once it is true: where its trigger is -/
def HD (s : State) (o i d : Nat) : Prop :=
  InTodos s (.thenJ d (.orHook o i)) ∨ InTodos s (.run (.orHook o i)) ∨ InTodos s (.goS (s.ors o).target false)
  ∨ (s.sigs (s.ors o).target).go = true ∨ (s.sigs (s.ors o).target).alive = false

/-- while `d` is false: where its hook is -/
def ID (s : State) (o i d : Nat) : Prop :=
  Job.orHook o i ∈ (s.sigs d).jobs ∨ InTodos s (.thenJ d (.orHook o i))
  ∨ (s.sigs (s.ors o).target).go = true ∨ (s.sigs (s.ors o).target).alive = false

structure InvG (s : State) : Prop where
  compNotNever   : ∀ z, z < s.nSig → (s.sigs z).built ≠ .leaf → (s.sigs z).never = false
  actJustified   : ∀ a, InTodos s a → ActG s a
  trueOnlyIf     : ∀ z o, z < s.nSig → (s.sigs z).built = .orOut o → (s.sigs z).go = true → (s.sigs z).direct = false →
        ∃ d, d ∈ (s.ors o).deps0 ∧ (s.sigs d).go = true
  truePropagates : ∀ o i d, o < s.nOr → (s.ors o).deps0[i]? = some d → (s.sigs d).go = true → HD s o i d
  falseHooked    : ∀ o i d, o < s.nOr → (s.ors o).deps0[i]? = some d → (s.sigs d).go = false → ID s o i d

theorem invG_init : InvG init := by
  constructor
  case compNotNever => intro z hz hb; exact absurd (init_built z) hb
  case actJustified => intro a ha; exact absurd ha (inTodos_init _)
  case trueOnlyIf => intro z o hz hb; rw [init_built] at hb; cases hb
  case truePropagates | falseHooked => intro o i d ho; simp [init] at ho

theorem actG_ext {s s' : State} (hl : InvL s) (ex : Ext s s') {a : Act} (ha : InTodos s a) (h : ActG s a) : ActG s' a := by
  cases a with
  | run j =>
    cases j with
    | orHook o i =>
      obtain ⟨d, hd, hg⟩ := h
      have ho : o < s.nOr := hl.M2o _ _ o ha rfl rfl
      exact ⟨d, by rw [(ex.ors o ho).1]; exact hd, ex.go d ((hl.F6 o ho).1 d (List.mem_of_getElem? hd)) hg⟩
    | _ => trivial
  | goS z df =>
    cases df with
    | true => trivial
    | false =>
      intro o hb
      rw [ex.built z (hl.M1 _ z ha (by simp [Act.sigs]))] at hb
      have ho := (hl.F3 z o hb).1
      obtain ⟨d, hd, hg⟩ := h o hb
      exact ⟨d, by rw [(ex.ors o ho).1]; exact hd, ex.go d ((hl.F6 o ho).1 d hd) hg⟩
  | removeJ z j =>
    cases j with
    | orHook o i =>
      have ho : o < s.nOr := hl.M2o _ _ o ha rfl rfl
      have hc := (hl.F1 o ho).1
      show (s'.sigs (s'.ors o).target).go = true ∨ (s'.sigs (s'.ors o).target).alive = false
      rw [(ex.ors o ho).2.1]
      exact h.imp (ex.go _ hc) (ex.dead _ hc)
    | _ => trivial
  | _ => trivial

theorem invG_move {s s' : State} {t : Nat} {hd : Option Act} {new : List Act} (hl : InvL s)
    (hB1 : ∀ z o i, Job.orHook o i ∈ (s.sigs z).jobs → (s.ors o).deps0[i]? = some z)
    (hB2 : ∀ z o i, InTodos s (.thenJ z (.orHook o i)) → (s.ors o).deps0[i]? = some z) (hg : InvG s)
    (m : Move s s' t hd new) : InvG s' := by
  have tgt_lt : ∀ {o}, o < s.nOr → (s.ors o).target < s.nSig := fun ho => (hl.F1 _ ho).1
  have lift : ∀ {o}, o < s.nOr → (∃ d, d ∈ (s.ors o).deps0 ∧ (s.sigs d).go = true) → ∃ d, d ∈ (s'.ors o).deps0 ∧ (s'.sigs d).go = true := by
    rintro o ho ⟨d, hdm, hgd⟩
    exact ⟨d, by rw [(m.ors o ho).1]; exact hdm, (m.go d ((hl.F6 o ho).1 d hdm) hgd).1⟩
  have hook_new : ∀ {x y w}, hd = some (.orNew x y w) → ∀ i d, (s'.ors s.nOr).deps0[i]? = some d →
      InTodos s' (.thenJ d (.orHook s.nOr i)) := by
    intro x y w he i d hdd
    obtain ⟨_, _, hdeps, _, _, hnew⟩ := m.ran he
    rw [hdeps] at hdd
    refine m.td.intro ?_
    rw [hnew]
    rcases idx_of_pair hdd with ⟨rfl, rfl⟩ | ⟨rfl, rfl⟩ <;> simp
  constructor
  case compNotNever =>
    intro z hz hb
    by_cases hzs : z < s.nSig
    · rw [m.built z hzs] at hb; rw [m.never z hzs]; exact hg.compNotNever z hzs hb
    · exact (m.fresh z (by omega) hz).2.1
  case actJustified =>
    intro b hb
    rcases m.td.sub hb with h1 | h1
    · cases b with
      | run j =>
        cases j with
        | orHook o i =>
          rcases m.src _ h1 with ⟨z, df, _, hj, hgz⟩ | ⟨d, he, hgd⟩ | ⟨_, _, h, _⟩
          case inr.inr => cases h
          · have ho : o < s.nOr := hl.M3o z _ o hj rfl
            exact ⟨z, by rw [(m.ors o ho).1]; exact hB1 z o i hj, hgz⟩
          · have hin := m.td.head he
            have ho : o < s.nOr := hl.M2o _ _ o hin rfl rfl
            have hb2 := hB2 d o i hin
            exact ⟨d, by rw [(m.ors o ho).1]; exact hb2, (m.go d ((hl.F6 o ho).1 d (List.mem_of_getElem? hb2)) hgd).1⟩
        | _ => trivial
      | goS z df =>
        rcases m.src _ h1 with ⟨rfl, _⟩ | ⟨rfl, o, i, he, rfl, _⟩ | ⟨rfl, n, i, he, rfl, _⟩
        · trivial
        · intro o' hb'
          have hin := m.td.head he
          have ho : o < s.nOr := hl.M2o _ _ o hin rfl rfl
          rw [m.built _ (tgt_lt ho), (hl.F1 o ho).2] at hb'
          injection hb' with h2; subst h2
          obtain ⟨d, hdd, hgd⟩ := hg.actJustified _ hin
          exact lift ho ⟨d, List.mem_of_getElem? hdd, hgd⟩
        · intro o' hb'
          have hn : n < s.nAnd := hl.M2a _ _ n (m.td.head he) rfl rfl
          rw [m.built _ (hl.F2 n hn).1, (hl.F2 n hn).2] at hb'
          cases hb'
      | removeJ z j =>
        obtain ⟨o, i, hj, he⟩ := m.src _ h1
        subst hj
        have hin := m.td.head he
        have ho : o < s.nOr := hl.M2o _ _ o hin rfl rfl
        show (s'.sigs (s'.ors o).target).go = true ∨ (s'.sigs (s'.ors o).target).alive = false
        rw [(m.ors o ho).2.1, m.alive _ (tgt_lt ho)]
        exact (hl.Jr o hin).imp (fun h2 => (m.go _ (tgt_lt ho) h2).1) id
      | _ => trivial
    · exact actG_ext hl m.ext h1 (hg.actJustified b h1)
  case trueOnlyIf =>
    intro z o hz hb hgo hdir
    by_cases hzs : z < s.nSig
    · rw [m.built z hzs] at hb
      have ho := (hl.F3 z o hb).1
      rcases m.gsrc z hzs hgo with h1 | ⟨df, he, hdf⟩
      · rw [(m.go z hzs h1).2.1] at hdir; exact lift ho (hg.trueOnlyIf z o hzs hb h1 hdir)
      · rw [hdf] at hdir; subst hdir
        exact lift ho (hg.actJustified _ (m.td.head he) o hb)
    · have := (m.fresh z (by omega) hz).2.2.1; rw [hgo] at this; cases this
  case truePropagates =>
    intro o i d ho hdd hgd
    rcases m.or_cases ho with ho | ⟨rfl, x, y, w, he⟩
    case inr => exact Or.inl (hook_new he i d hdd)
    rw [(m.ors o ho).1] at hdd
    have hdl : d < s.nSig := (hl.F6 o ho).1 d (List.mem_of_getElem? hdd)
    have hc := tgt_lt ho
    unfold HD; rw [(m.ors o ho).2.1, m.alive _ hc]
    have k_then : InTodos s (.thenJ d (.orHook o i)) → InTodos s' (.thenJ d (.orHook o i)) ∨ InTodos s' (.run (.orHook o i)) := by
      intro hin
      rcases m.then_cases hin with h | ⟨_, hr⟩ | ⟨hng, hj⟩
      · exact Or.inl h
      · exact Or.inr (m.td.intro hr)
      · -- registered while `d` was false: then `d` is still false
        obtain ⟨_, _, hcl⟩ := m.rose hdl hng hgd; rw [hcl] at hj; cases hj
    cases hgs : (s.sigs d).go with
    | true =>
      rcases hg.truePropagates o i d ho hdd hgs with h1 | h1 | h1 | h1 | h1
      · exact (k_then h1).imp id Or.inl
      · by_cases heq : hd = some (.run (.orHook o i))
        · exact (m.ran heq).elim (fun hr => Or.inr (Or.inr (Or.inl (m.td.intro hr)))) (fun hdead => Or.inr (Or.inr (Or.inr (Or.inr hdead))))
        · exact Or.inr (Or.inl (m.td.keep h1 heq))
      · by_cases heq : hd = some (.goS (s.ors o).target false)
        · exact Or.inr (Or.inr (Or.inr (Or.inl ((m.ran heq).1 (hg.compNotNever _ hc (by rw [(hl.F1 o ho).2]; intro hb; cases hb))))))
        · exact Or.inr (Or.inr (Or.inl (m.td.keep h1 heq)))
      · exact Or.inr (Or.inr (Or.inr (Or.inl (m.go _ hc h1).1)))
      · exact Or.inr (Or.inr (Or.inr (Or.inr h1)))
    | false =>
      obtain ⟨df, ha, hcl⟩ := m.rose hdl hgs hgd
      rcases hg.falseHooked o i d ho hdd hgs with h1 | h1 | h1 | h1
      · rcases m.jkeep d _ h1 with h2 | ⟨hr, _⟩ | h2
        · rw [hcl] at h2; cases h2
        · exact Or.inr (Or.inl (m.td.intro hr))
        · rw [ha] at h2; cases h2
      · exact (k_then h1).imp id Or.inl
      · exact Or.inr (Or.inr (Or.inr (Or.inl (m.go _ hc h1).1)))
      · exact Or.inr (Or.inr (Or.inr (Or.inr h1)))
  case falseHooked =>
    intro o i d ho hdd hgd
    rcases m.or_cases ho with ho | ⟨rfl, x, y, w, he⟩
    case inr => exact Or.inr (Or.inl (hook_new he i d hdd))
    rw [(m.ors o ho).1] at hdd
    have hdl : d < s.nSig := (hl.F6 o ho).1 d (List.mem_of_getElem? hdd)
    have hc := tgt_lt ho
    unfold ID; rw [(m.ors o ho).2.1, m.alive _ hc]
    have up : (s.sigs (s.ors o).target).go = true ∨ (s.sigs (s.ors o).target).alive = false →
        Job.orHook o i ∈ (s'.sigs d).jobs ∨ InTodos s' (.thenJ d (.orHook o i))
        ∨ (s'.sigs (s.ors o).target).go = true ∨ (s.sigs (s.ors o).target).alive = false :=
      fun h => Or.inr (Or.inr (h.imp (fun h1 => (m.go _ hc h1).1) id))
    rcases hg.falseHooked o i d ho hdd (m.ext.go_back hdl hgd) with h1 | h1 | h1 | h1
    · rcases m.jkeep d _ h1 with h2 | ⟨_, h2⟩ | h2
      · exact Or.inl h2
      · rw [hgd] at h2; cases h2
      · exact up (hg.actJustified _ (m.td.head h2))
    · rcases m.then_cases h1 with h2 | ⟨h2, _⟩ | ⟨_, h2⟩
      · exact Or.inr (Or.inl h2)
      · rw [m.ext.go_back hdl hgd] at h2; cases h2
      · exact Or.inl h2
    · exact up (Or.inl h1)
    · exact up (Or.inr h1)

theorem invG_die {s : State} {z : Nat} (hl : InvL s) (hg : InvG s) (C : Collectable s z) : InvG (s.die z) := by
  constructor
  case compNotNever => intro w hw hb; rw [die_built] at hb; rw [die_never]; exact hg.compNotNever w hw hb
  case actJustified =>
    exact fun b hb => actG_ext hl (die_ext s z) hb (hg.actJustified b hb)
  case trueOnlyIf =>
    intro w o hw hb hgo hdir
    rw [die_built] at hb; rw [die_go] at hgo; rw [die_direct] at hdir
    obtain ⟨d, hdm, hgd⟩ := hg.trueOnlyIf w o hw hb hgo hdir
    exact ⟨d, hdm, by rw [die_go]; exact hgd⟩
  case truePropagates =>
    intro o i d ho hdd hgd
    rw [die_go] at hgd
    unfold HD; rw [die_go]
    exact (hg.truePropagates o i d ho hdd hgd).imp id (Or.imp id (Or.imp id (Or.imp id die_dead)))
  case falseHooked =>
    intro o i d ho hdd hgd
    rw [die_go] at hgd
    unfold ID; rw [die_go]
    rcases hg.falseHooked o i d ho hdd hgd with h1 | h1
    · -- the hook sits on `d`; if `d` is the object being freed, the composite cannot be alive and untriggered
      by_cases hdz : d = z
      · subst hdz
        cases hgo : (s.sigs (s.ors o).target).go with
        | true => exact Or.inr (Or.inr (Or.inl hgo))
        | false =>
          cases hal : (s.sigs (s.ors o).target).alive with
          | false => exact Or.inr (Or.inr (Or.inr (die_dead hal)))
          | true =>
            exact absurd C (hl.or_not_collectable ho hal hgo (List.mem_of_getElem? hdd))
      · left; rw [die_other hdz]; exact h1
    · exact Or.inr (h1.imp id (Or.imp id die_dead))

theorem reach_invG {s : State} (h : sys.Reach s) : InvG s := by
  refine Sys.Reach.invariant' sys (P := InvG) ?_ ?_ ?_ h
  · intro s hi; cases hi; exact invG_init
  · intro s s' hr hg he
    have hl := reach_invL hr
    have hh := reach_invH hr
    rcases move_of_env hl.heap_end he with ⟨t, new, m⟩ | ⟨t, z, hc⟩
    · exact invG_move hl (fun z o => (hh.orInv o).hookAtOpd z) (fun z o => (hh.orInv o).thenAtOpd z) hg m
    · obtain ⟨C, rfl | ⟨_, m⟩⟩ := hl.collect hc
      · exact invG_die hl hg C
      · exact invG_move (invL_die hl C) (fun w o' i hj => (hh.orInv o').hookAtOpd w i (die_jobs hj).2) (fun z o => (hh.orInv o).thenAtOpd z)
          (invG_die hl hg C) m
  · intro s s' t l hr hg hs
    have hl := reach_invL hr
    have hh := reach_invH hr
    obtain ⟨hd, new, m⟩ := move_of_step hl.heap_end hs
    exact invG_move hl (fun z o => (hh.orInv o).hookAtOpd z) (fun z o => (hh.orInv o).thenAtOpd z) hg m

end MoThreads.Composite
