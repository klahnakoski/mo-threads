/-
  M5 (ThreadTree): what every move leaves alone.  One pass over the transitions, needing no invariant: no step resets
  `please_stop` or `stopped`, forgets a registration, touches another thread's call, writes `outcome` or hands out a
  thread id.  The closure of stop() (TreeStop), the run lemmas of the ranking (TreeRank) and C11/C12 read it off.
-/
import MoThreads.Proofs.TreeLemmas
namespace MoThreads.ThreadTree

structure Frame (s s' : State) (t : Nat) : Prop where
  pst : ∀ u, s.pstop u = true → s'.pstop u = true
  stp : ∀ u, s.stopped u = true → s'.stopped u = true
  evr : ∀ p c, c ∈ s.everChild p → c ∈ s'.everChild p
  cal : ∀ u, u ≠ t → s'.call u = s.call u
  phs : ∀ u, u ≠ t → s'.phase u = s.phase u ∨ s.call t = .spawn u

theorem frame_own {s : State} {t : Nat} {ph : Nat → Phase} {cl : Nat → Call} {ch : Nat → List Nat}
    {ps st jn ia : Nat → Bool} {ao : List Nat}
    (hph : ∀ u, u ≠ t → ph u = s.phase u) (hcl : ∀ u, u ≠ t → cl u = s.call u)
    (hps : ∀ u, s.pstop u = true → ps u = true) (hst : ∀ u, s.stopped u = true → st u = true) :
    Frame s { s with phase := ph, call := cl, children := ch, pstop := ps, stopped := st, joiner := jn, inAll := ia, allOrder := ao } t :=
  ⟨hps, hst, fun _ _ h => h, hcl, fun u hu => Or.inl (hph u hu)⟩

theorem frame_stepStop {s s' : State} {t : Nat} {w : List SAct} {k : List SAct → Call} {l : Label}
    (hs : stepStop s t w k = some (s', l)) : Frame s s' t ∧ s'.outcome = s.outcome ∧ s'.nextId = s.nextId := by
  obtain ⟨w', ps, rfl, hps⟩ := stepStop_eq hs
  exact ⟨frame_own (fun _ _ => rfl) (fun _ hu => upd_other _ _ hu) hps (fun _ h => h), rfl, rfl⟩

theorem frame_stepJoin {s s' : State} {t : Nat} {top : List Nat} {w : List JAct} {tl : Option Nat} {raised : List Nat}
    {all : Bool} {k : List JAct → List Nat → Call} {l : Label}
    (hs : stepJoin s t top w tl raised all k = some (s', l)) : Frame s s' t ∧ s'.outcome = s.outcome ∧ s'.nextId = s.nextId := by
  have key : ∀ c' jn ch, Frame s { s with call := upd s.call t c', joiner := jn, children := ch } t := fun _ _ _ =>
    frame_own (fun _ _ => rfl) (fun _ hu => upd_other _ _ hu) (fun _ h => h) (fun _ h => h)
  unfold stepJoin at hs
  cases w with
  | nil => cases hs
  | cons a r =>
    cases a with
    | wait u =>
      simp only at hs
      split at hs
      · cases hs; exact ⟨key _ _ _, rfl, rfl⟩
      · split at hs
        · cases hs; exact ⟨key _ _ _, rfl, rfl⟩
        · cases hs
    | _ => cases hs; exact ⟨key _ _ _, rfl, rfl⟩

theorem frame_step {s s' : State} {t : Nat} {l : Label} (hs : step s t = some (s', l)) :
    Frame s s' t ∧ s'.outcome = s.outcome ∧ s'.nextId = s.nextId := by
  have ph : ∀ {q ch st ia ao}, (∀ u, s.stopped u = true → st u = true) →
      Frame s { s with phase := upd s.phase t q, children := ch, stopped := st, inAll := ia, allOrder := ao } t := fun hst =>
    frame_own (fun _ hu => upd_other _ _ hu) (fun _ _ => rfl) (fun _ h => h) hst
  have pc : ∀ {q c'}, Frame s { s with phase := upd s.phase t q, call := upd s.call t c' } t :=
    frame_own (fun _ hu => upd_other _ _ hu) (fun _ hu => upd_other _ _ hu) (fun _ h => h) (fun _ h => h)
  have cl : ∀ {c' ps jn ia ao}, (∀ u, s.pstop u = true → ps u = true) →
      Frame s { s with call := upd s.call t c', pstop := ps, joiner := jn, inAll := ia, allOrder := ao } t := fun hps =>
    frame_own (fun _ _ => rfl) (fun _ hu => upd_other _ _ hu) hps (fun _ h => h)
  unfold step at hs
  cases hph : s.phase t <;> rw [hph] at hs <;> simp only at hs
  case absent | dead => cases hs
  case created | peek | fin4 | fin5 => cases hs; exact ⟨ph fun _ h => h, rfl, rfl⟩
  case fin1 => cases hs; exact ⟨pc, rfl, rfl⟩
  case fin6 => cases hs; exact ⟨ph fun _ h => upd_true t h, rfl, rfl⟩
  case linger =>
    split at hs
    · cases hs; exact ⟨ph fun _ h => h, rfl, rfl⟩
    · split at hs
      · split at hs <;> (cases hs; exact ⟨ph fun _ h => h, rfl, rfl⟩)
      · cases hs
  case fin2 =>
    split at hs
    · cases hs; exact ⟨pc, rfl, rfl⟩
    · exact frame_stepStop hs
    · cases hs
  case fin3 =>
    split at hs
    · cases hs; exact ⟨pc, rfl, rfl⟩
    · exact frame_stepJoin hs
    · cases hs
  case running =>
    cases hc : s.call t <;> simp only [hc] at hs
    case idle => cases hs
    case spawn c =>
      split at hs
      · cases hs
        refine ⟨⟨fun _ h => h, fun _ h => h, fun _ _ h => h, fun u hu => upd_other _ _ hu, fun u _ => ?_⟩, rfl, rfl⟩
        by_cases huc : u = c
        · exact Or.inr (huc ▸ hc)
        · exact Or.inl (upd_other _ _ huc)
      · cases hs
        refine ⟨⟨fun _ h => h, fun _ h => h, fun p x hx => ?_, fun _ _ => rfl, fun _ _ => Or.inl rfl⟩, rfl, rfl⟩
        show x ∈ upd s.everChild t _ p
        by_cases hp : p = t
        · rw [hp, upd_same]; exact List.mem_append_left _ (hp ▸ hx)
        · rw [upd_other _ _ hp]; exact hx
    case releasing | m1 | m2 => cases hs; exact ⟨cl fun _ h => h, rfl, rfl⟩
    case m0 => cases hs; exact ⟨cl fun _ h => upd_true t h, rfl, rfl⟩
    case stopping | mS | mRS => split at hs; (cases hs; exact ⟨cl fun _ h => h, rfl, rfl⟩); exact frame_stepStop hs
    case joining | mJ | mRJ => split at hs; (cases hs; exact ⟨cl fun _ h => h, rfl, rfl⟩); exact frame_stepJoin hs

theorem Frame.phase_eq {s s' : State} {t u : Nat} (f : Frame s s' t) (hi : Inv s) (hu : u ≠ t) (hne : s.phase u ≠ .absent) :
    s'.phase u = s.phase u :=
  (f.phs u hu).resolve_right fun hc => hne (hi.spawnC t u hc).1

theorem frame_call {s s' : State} {t : Nat} {op : Op} (hc : call s t op = some s') :
    Frame s s' t ∧ (∃ r, s.call t = .idle r) := by
  unfold call at hc
  split at hc
  · rename_i r hph hcl
    refine ⟨?_, r, hcl⟩
    have cl : ∀ {c' pa orp n}, Frame s { s with call := upd s.call t c', parent := pa, orphan := orp, nextId := n } t :=
      ⟨fun _ h => h, fun _ h => h, fun _ _ h => h, fun _ hu => upd_other _ _ hu, fun _ _ => Or.inl rfl⟩
    cases op with
    | mainStop => simp only at hc; split at hc <;> cases hc; exact cl
    | finish o =>
      simp only at hc; split at hc <;> cases hc
      exact ⟨fun _ h => h, fun _ h => h, fun _ _ h => h, fun _ _ => rfl, fun _ hu => Or.inl (upd_other _ _ hu)⟩
    | _ => cases hc; exact cl
  · cases hc

end MoThreads.ThreadTree
