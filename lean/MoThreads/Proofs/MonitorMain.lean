/-
  M3 (Monitor): the outline holds in every reachable state, hence `Inv`.  What a step owes the other threads is small by
  `At.frame`: a thread that does not hold the lock relies on one thing only — which of its waiters are in `track` — and
  pop, go, insert and remove all keep `track` as it is for the waiters of the others.
-/
import MoThreads.Proofs.MonitorInv
namespace MoThreads.Monitor

/-- outside the lock a pc is classified by `parkedOn` alone -/
theorem PC.out {p : PC} (h : p.holdsM = false) :
    p.listedOwn = p.parkedOn ∧ p.sleepOn = p.parkedOn ∧ p.own = p.parkedOn ∧ p.waitCond = none ∧ p.preList = none ∧
      ((∀ s, p.spec s) ∨ ∃ w c tl, p = .parked w c tl) := by
  cases p <;> simp [PC.holdsM] at h <;>
    simp [PC.listedOwn, PC.parkedOn, PC.sleepOn, PC.own, PC.waitCond, PC.preList, PC.spec]

/-- `hK`: if the write frees the lock with no signal on its way, none of `u`'s waiters is listed (this is where a
release hands over `K`). -/
theorem At.frame {s s' : State} {u : Nat} {p : PC} (a : At s u p) (h0 : s.mutex ≠ some u) (h1 : s'.mutex ≠ some u)
    (ho : s'.owner = s.owner) (hn : s'.nextW = s.nextW) (htr : ∀ w, s.owner w = u → (w ∈ s'.track ↔ w ∈ s.track))
    (hK : s'.mutex = none → ∀ w, s.owner w = u → w ∈ s'.waiting → s'.hot ≠ []) : At s' u p := by
  have hp : p.holdsM = false := Bool.eq_false_iff.mpr fun h => h0 (a.mutex.mp h)
  obtain ⟨e1, e2, e3, e4, e5, e6⟩ := PC.out hp
  have key : ∀ w, s'.owner w = u → w ∈ s'.track → p.parkedOn = some w := fun w hw ht => by
    rw [ho] at hw
    rcases mem_track.mp ((htr w hw).mp ht) with h | h
    · exact e1 ▸ a.listed w hw h
    · exact a.parked w hw h
  refine ⟨by simp [hp, h1], by rw [ho, hn]; exact a.own, fun h => absurd h h1,
    fun w hw h => e1 ▸ key w hw (mem_track.mpr (.inl h)), fun w hw h => key w hw (mem_track.mpr (.inr h)),
    fun w hw => (htr w (a.own w (e3 ▸ e2 ▸ hw)).1).mpr (a.noLost w hw), by simp [e4], by simp [e5], ?_⟩
  rcases e6 with e6 | ⟨w, c, tl, rfl⟩
  · exact e6 _
  · exact fun hw hm hh => absurd hh (hK hm w (a.own w rfl).1 hw)

theorem holder_ne {s : State} {t u : Nat} (hm : s.mutex = some t) (hu : u ≠ t) : s.mutex ≠ some u :=
  fun h' => hu (Option.some.inj (h'.symm.trans hm))

/-- `e` (proved by `rfl`) says that the step writes nothing but `waiting`, `fired`, `hot`, `hand` and `σ`. -/
theorem Outline.step_in {s s₁ : State} {t : Nat} {p' : PC} (h : Outline s) (hm : s.mutex = some t)
    (e : s₁ = { s with waiting := s₁.waiting, fired := s₁.fired, hot := s₁.hot, hand := s₁.hand, σ := s₁.σ })
    (g : Sh s₁) (htr : ∀ w, s.owner w ≠ t → (w ∈ s₁.track ↔ w ∈ s.track)) (a : At s₁ t p') : Outline (s₁.setPc t p') := by
  have hpc : s₁.pc = s.pc := by rw [e]
  have hmx : s₁.mutex = s.mutex := by rw [e]
  exact .setPc g a fun u hu => hpc ▸ (h.thread u).frame (holder_ne hm hu) (hmx ▸ holder_ne hm hu) (by rw [e]) (by rw [e])
    (fun w hw => htr w (hw ▸ hu)) fun hm' => nomatch hm'.symm.trans (hmx.trans hm)

abbrev State.pop (s : State) (o : Nat) : State := { s with waiting := s.waiting.dropLast, hand := some o }

theorem Sh.pop {s : State} (g : Sh s) {o t : Nat} (hm : s.mutex = some t) (hh : s.hand = none)
    (hg : s.waiting.getLast? = some o) : Sh (s.pop o) ∧ (s.pop o).track = s.track := by
  have e : (s.pop o).cold = s.cold := by
    show s.waiting.dropLast ++ [o] = s.waiting ++ s.hand.toList
    rw [← pop_split hg, hh]; exact (List.append_nil _).symm
  have e' : (s.pop o).track = s.track := congrArg (· ++ s.hot) e
  exact ⟨⟨e' ▸ g.nodup, e ▸ g.cold, g.hotF, fun hm' => (nomatch hm'.symm.trans hm), e' ▸ g.fresh⟩, e'⟩

abbrev State.fire (s : State) (o : Nat) : State :=
  { s with fired := fun y => if y = o then true else s.fired y, hot := o :: s.hot, hand := none }

theorem Sh.fire {s : State} (g : Sh s) {o : Nat} (hh : s.hand = some o) : Sh (s.fire o) ∧ (s.fire o).track = s.track := by
  have e : (s.fire o).track = s.track := by
    show s.waiting ++ [] ++ o :: s.hot = s.waiting ++ s.hand.toList ++ s.hot
    rw [hh]; simp
  have ho : o ∈ s.hand.toList := Option.mem_toList.mpr hh
  have dwh := (List.nodup_append.mp (List.nodup_append.mp g.nodup).1).2.2
  refine ⟨⟨e ▸ g.nodup, fun w hw => ?_, fun w hw => ?_, fun _ => rfl,
    fun w hw => g.fresh w (hw.elim (fun h => .inl (e ▸ h)) fun hf => ?_)⟩, e⟩
  · have hw : w ∈ s.waiting := (List.mem_append.mp hw).resolve_right nofun
    exact (if_neg (dwh w hw o ho)).trans (g.cold w (List.mem_append_left _ hw))
  · show (if w = o then true else s.fired w) = true
    split
    · rfl
    · next ne => exact g.hotF w ((List.mem_cons.mp hw).resolve_left ne)
  · by_cases eo : w = o
    · exact .inl (eo ▸ List.mem_append_left _ (List.mem_append_right _ ho))
    · exact .inr ((if_neg eo).symm.trans hf)

theorem Sh.shrink {s : State} (g : Sh s) {m : Option Nat} {l k : List Nat} (hl : l.Sublist s.waiting) (hk : k.Sublist s.hot)
    (hm : m = none → s.mutex = none) : Sh { s with mutex := m, waiting := l, hot := k } :=
  have hc := hl.append_right s.hand.toList
  have ht := hc.append hk
  ⟨g.nodup.sublist ht, fun w hw => g.cold w (hc.subset hw), fun w hw => g.hotF w (hk.subset hw), fun e => g.handN (hm e),
    fun w hw => g.fresh w (hw.imp_left (ht.subset ·))⟩

abbrev State.push (s : State) (w : Nat) : State := { s with waiting := w :: s.waiting }

/-- `insert(0, waiter)` and `waiting = [waiter]`: both pcs carry the assertion of `a0`, and both lead to `a5`. -/
theorem Outline.push {s : State} {t w : Nat} {c : Cond} {tl : Option Nat} (h : Outline s) (a : At s t (.a0 w c tl))
    (hs : s.hot ≠ [] ∨ s.waiting = []) : Outline ((s.push w).setPc t (.a5 w c tl)) := by
  have g := h.sh
  obtain ⟨hf, hnt⟩ := a.preL w rfl
  obtain ⟨ho, hlt⟩ := a.own w rfl
  refine h.step_in (a.mutex.mp rfl) rfl
    { g with
      nodup := List.nodup_cons.mpr ⟨hnt, g.nodup⟩
      cold := fun w' hw' => (List.mem_cons.mp hw').elim (· ▸ hf) (g.cold w')
      fresh := fun w' hw' => hw'.elim (fun hc => (List.mem_cons.mp hc).elim (· ▸ hlt) (g.fresh w' ∘ .inl)) (g.fresh w' ∘ .inr) }
    (fun w' hw' => List.mem_cons.trans (or_iff_right fun e => hw' (e ▸ ho)))
    { a with listed := fun w' hw' hc => ?_, noLost := fun w' e => by cases e; exact List.mem_cons_self, preL := nofun, spec := ?_ }
  · rcases List.mem_cons.mp hc with rfl | hc
    · rfl
    · cases a.listed w' hw' hc
  · rcases hs with hs | hs
    · exact .inl hs
    · exact .inr (by simp [hs])

theorem outline_init : Outline init :=
  ⟨⟨List.nodup_nil, nofun, nofun, fun _ => rfl, fun _ hw => hw.elim nofun nofun⟩,
    fun _ => ⟨iff_of_false nofun nofun, nofun, nofun, nofun, nofun, nofun, nofun, nofun, trivial⟩⟩

theorem outline_step {s s' : State} {t : Nat} {l : Label} (h : Outline s) (hs : step s t = some (s', l)) : Outline s' := by
  have a := h.thread t
  have g := h.sh
  cases hp : s.pc t <;> rw [hp] at a <;> step_at hp hs
  case idle | inside => cases hs
  case e0 =>
    split at hs
    case isFalse => cases hs
    case isTrue hm =>
      cases hs
      exact .setPc (s := { s with mutex := some t }) { g with handN := nofun }
        { a with mutex := iff_of_true rfl rfl, hand := fun _ => g.handN hm }
        fun u hu => (h.thread u).frame (by rw [hm]; nofun) (fun e => hu (Option.some.inj e).symm) rfl rfl (fun _ _ => .rfl) nofun
  case x0 | a0 w c tl =>
    cases hs
    refine .setPc g ?_ fun u _ => h.thread u
    split
    · exact { a with spec := by simp [PC.spec, *] }
    · exact { a with spec := ‹_› }
  case x1 | a1 w c tl =>
    cases hg : s.waiting.getLast? with
    | none => rw [hg] at hs; cases hs
    | some o =>
      rw [hg] at hs; cases hs
      have hm := a.mutex.mp rfl
      have hh := a.hand hm
      obtain ⟨g', e⟩ := g.pop hm hh hg
      refine h.step_in (s₁ := s.pop o) hm rfl g' (fun w _ => by rw [e])
        { a with
          hand := fun _ => rfl
          listed := fun w hw hd => a.listed w hw (List.dropLast_subset _ hd)
          parked := fun w hw hc => ?_
          noLost := nofun
          preL := e ▸ a.preL
          spec := trivial }
      rcases List.mem_cons.mp hc with rfl | hc
      -- the popped waiter is not the popper's own: that one is not listed
      · cases a.listed w hw (List.mem_of_getLast? hg)
      · exact a.parked w hw (hh ▸ hc)
  case x2 o | a2 w c tl o =>
    cases hs
    have hm := a.mutex.mp rfl
    have hh := a.hand hm
    have ho : o ∈ s.hand.toList := Option.mem_toList.mpr hh
    obtain ⟨g', e⟩ := g.fire hh
    -- the signal in hand has not fired: the model's `hot := if s.fired o then s.hot else o :: s.hot` is the `o :: s.hot` of `State.fire`
    simp only [g.cold o (List.mem_append_right _ ho), Bool.false_eq_true, if_false]
    refine h.step_in (s₁ := s.fire o) hm rfl g' (fun w _ => by rw [e])
      { a with
        hand := fun _ => rfl
        parked := fun w' hw hc => a.parked w' hw (hh ▸ hc)
        noLost := nofun
        preL := fun w' e' => ?_
        spec := by simp [PC.spec] }
    obtain ⟨p1, p2⟩ := a.preL w' e'
    exact ⟨(if_neg fun (eo : w' = o) => p2 (eo ▸ List.mem_append_left _ (List.mem_append_right _ ho))).trans p1, e ▸ p2⟩
  case x3 =>
    cases hs
    have hm := a.mutex.mp rfl
    exact .setPc (s := { s with mutex := none }) { g with handN := fun _ => a.hand hm }
      { a with mutex := iff_of_false nofun nofun, hand := nofun, spec := trivial }
      fun u hu => (h.thread u).frame (holder_ne hm hu) nofun rfl rfl (fun _ _ => .rfl)
        fun _ w _ hw => a.spec.resolve_left (List.ne_nil_of_mem hw)
  case a3 w c tl =>
    cases hs
    exact h.push { a with spec := trivial } (.inl a.spec)
  case a4 w c tl =>
    cases hs
    have e : s.waiting = [] := a.spec
    rw [← e]
    exact h.push { a with spec := trivial } (.inr e)
  case a5 w c tl =>
    cases hs
    have hm := a.mutex.mp rfl
    refine .setPc (s := { s with mutex := none }) { g with handN := fun _ => a.hand hm }
      { a with
        mutex := iff_of_false nofun nofun
        hand := nofun
        parked := fun w' hw' hc => nomatch a.parked w' hw' hc
        cFalse := nofun
        spec := fun _ _ _ => a.cFalse c rfl }
      fun u hu => (h.thread u).frame (holder_ne hm hu) nofun rfl rfl (fun _ _ => .rfl) fun _ w' hw' hc => ?_
    -- no signal on its way: then the list is `[w]`, and `w` is not `u`'s
    refine a.spec.resolve_right fun e => hu ?_
    rw [e] at hc; cases List.mem_singleton.mp hc
    rw [← hw', (a.own w rfl).1]
  case parked w c tl =>
    split at hs
    case isFalse => cases hs
    case isTrue hc =>
      cases hs
      simp only [Bool.and_eq_true, Bool.or_eq_true, decide_eq_true_eq] at hc
      obtain ⟨hc, hm⟩ := hc
      have hh := g.handN hm
      have hme := fun {w'} => List.Nodup.mem_erase_iff (a := w') (b := w) (List.nodup_append.mp g.nodup).2.1
      refine .setPc (s := { s with mutex := some t, hot := s.hot.erase w }) (g.shrink (.refl _) List.erase_sublist nofun)
        { a with
          mutex := iff_of_true rfl rfl
          hand := fun _ => hh
          parked := fun w' hw' hc => ?_
          noLost := nofun
          preL := nofun
          spec := hc }
        fun u hu => (h.thread u).frame (by rw [hm]; nofun) (fun e => hu (Option.some.inj e).symm) rfl rfl (fun w' hw' => ?_) nofun
      · rw [hh] at hc
        cases a.parked w' hw' (List.mem_append_right _ (hme.mp hc).2); exact absurd rfl (hme.mp hc).1
      · have hne : w' ≠ w := fun e => hu (by rw [← hw', e, (a.own w rfl).1])
        simp [List.mem_erase_of_ne hne]
  case a6 w c tl =>
    cases hs
    have hme := fun {w'} => List.Nodup.mem_erase_iff (a := w') (b := w) (List.nodup_append.mp (List.nodup_append.mp g.nodup).1).1
    refine h.step_in (s₁ := { s with waiting := s.waiting.erase w }) (a.mutex.mp rfl) rfl (g.shrink List.erase_sublist (.refl _) id)
      (fun w' hw' => by simp [List.mem_erase_of_ne (show w' ≠ w from fun e => hw' (e ▸ (a.own w rfl).1))])
      { a with own := nofun, listed := fun w' hw' hc => ?_, noLost := nofun, preL := nofun, spec := trivial }
    cases a.listed w' hw' (hme.mp hc).2; exact absurd rfl (hme.mp hc).1

theorem PC.spec_fireTill {s : State} {p : PC} (h : p.spec s) (x : Nat) : p.spec (fireTill s x) := by
  cases p with
  | a6 w c tl =>
    refine h.imp_right fun h1 => ?_
    cases tl with
    | none => exact h1
    | some y => show (if y = x then true else s.tillFired y) = true; split <;> trivial
  | _ => exact h

theorem outline_fireTill {s : State} (x : Nat) (h : Outline s) : Outline (fireTill s x) :=
  ⟨{ h.sh with }, fun t => { h.thread t with spec := PC.spec_fireTill (h.thread t).spec x }⟩

theorem Outline.alloc {s : State} (t : Nat) (h : Outline s) :
    Outline { s with nextW := s.nextW + 1, owner := fun w => if w = s.nextW then t else s.owner w } := by
  have hne : ∀ {w u}, w ∈ s.track → (if w = s.nextW then t else s.owner w) = u → s.owner w = u := fun hw ho =>
    (if_neg (Nat.ne_of_lt (h.sh.fresh _ (.inl hw)))).symm.trans ho
  exact ⟨{ h.sh with fresh := fun w hw => Nat.lt_succ_of_lt (h.sh.fresh w hw) }, fun u =>
    have a := h.thread u
    { a with
      own := fun w hu => have ⟨o1, o2⟩ := a.own w hu; ⟨(if_neg (Nat.ne_of_lt o2)).trans o1, Nat.lt_succ_of_lt o2⟩
      listed := fun w ho hw => a.listed w (hne (mem_track.mpr (.inl hw)) ho) hw
      parked := fun w ho hw => a.parked w (hne (mem_track.mpr (.inr hw)) ho) hw }⟩

theorem outline_call {s s' : State} {t : Nat} {op : Op} (h : Outline s) (hc : call s t op = some s') : Outline s' := by
  unfold call at hc
  split at hc
  case _ r hp | _ r hp =>
    cases hc
    have a := hp ▸ h.thread t
    exact .setPc h.sh { a with } fun u _ => h.thread u
  next r i v hp =>
    cases hc
    have a := hp ▸ h.thread t
    exact h.step_in (s₁ := { s with σ := _ }) (a.mutex.mp rfl) rfl { h.sh with } (fun _ _ => .rfl) { a with cFalse := nofun }
  next r c tl hp =>
    split at hc
    · cases hc
    · rename_i hcf
      cases hc
      have hn := fun hw => Nat.lt_irrefl _ (h.sh.fresh s.nextW hw)
      have h' := h.alloc t
      have a := hp ▸ h'.thread t
      exact .setPc h'.sh
        { a with
          own := fun w e => by cases e; exact ⟨if_pos rfl, Nat.lt_succ_self _⟩
          cFalse := fun c' e => by cases e; simpa using hcf
          preL := fun w e => by cases e; exact ⟨Bool.eq_false_iff.mpr (hn ∘ .inr), hn ∘ .inl⟩ }
        fun u _ => h'.thread u
  · cases hc

theorem reach_outline {s : State} (h : sys.Reach s) : Outline s := by
  refine Sys.Reach.invariant sys (P := Outline) ?_ ?_ ?_ h
  · rintro s rfl; exact outline_init
  · rintro s s' hi (⟨t, op, hc⟩ | ⟨x, rfl⟩)
    · exact outline_call hi hc
    · exact outline_fireTill x hi
  · intro s s' t l hi hs; exact outline_step hi hs

theorem reach_inv {s : State} (h : sys.Reach s) : Inv s := .of (reach_outline h)

end MoThreads.Monitor
