/-
  M4 (Queue): a ranking function for runs without environment moves (no new calls, no signals from the Lock, no
  timers, no close).  Every operation is a bounded number of own steps plus its turns around the capacity / empty
  loop, and every turn consumes what woke the thread: its `signalled` flag (reset when wait() returns), the stall
  timer of the wait (reset when the producer parks again), or it ends the call (the caller's till: the next
  capacity test raises; closed / till for a consumer: the pop returns).
-/
import MoThreads.Proofs.QueueInv
namespace MoThreads.Queue
open MoThreads

def actLen : Act → Nat
  | .extend vs => vs.length
  | _ => 0

def b2n (b : Bool) : Nat := if b then 1 else 0

/-- `tillOn` over the table of fired tills, which is all that `phiOf` is given of the state (`tOn_eq`) -/
def tOn (fired : Nat → Bool) : Option Nat → Bool
  | none => false
  | some x => fired x

/-- potential of a thread: position in its code, plus what its wake-up flags are still worth -/
def phiOf (fired : Nat → Bool) (sg st : Bool) : PC → Nat
  | .idle _ => 0
  | .sRel _ => 1
  | .sAct a _ => actLen a + 2
  | .sPost a => actLen a + 3
  | .sAcq a _ _ => actLen a + 40 + 30 * b2n sg
  | .sC a tl => actLen a + 3 + (if tOn fired tl then 3 else 24 + 30 * b2n sg)
  | .sLen a tl => actLen a + 3 + (if tOn fired tl then 2 else 23 + 30 * b2n sg)
  | .sTill a x => actLen a + 3 + (if fired x then 1 else 22 + 30 * b2n sg)
  | .sAlertNum a tl => actLen a + 3 + (if tOn fired tl then 4 else 25 + 30 * b2n sg)
  | .sAlertLen a tl => actLen a + 3 + (if tOn fired tl then 5 else 26 + 30 * b2n sg)
  | .sAlertT a x => actLen a + 3 + (if fired x then 6 else 27 + 30 * b2n sg)
  | .sWoke a tl => actLen a + 3 + (if tOn fired tl then 7 else 8 + 30 * b2n sg + 30 * b2n st)
  | .sParked a tl => actLen a + 3 + (if tOn fired tl then 8 else 9 + 30 * b2n sg + 30 * b2n st)
  | .sRel2 a tl => actLen a + 3 + (if tOn fired tl then 9 else 10 + 30 * b2n sg + 30 * b2n st)
  | .sPark a tl => actLen a + 3 + (if tOn fired tl then 10 else 21 + 30 * b2n sg)
  | .pPop => 2 | .pT _ => 2
  | .pAcq _ => 20 + 20 * b2n sg
  | .pLen _ => 19 + 20 * b2n sg
  | .pC _ => 18 + 20 * b2n sg
  | .pPark _ => 17 + 20 * b2n sg
  | .pRel2 _ => 16 + 20 * b2n sg
  | .pParked _ => 15 + 20 * b2n sg
  | .pWoke _ => 14 + 20 * b2n sg
  | .oPop => 2 | .oLen => 3 | .oC => 4 | .oAcq => 5
  | .lClear => 2 | .lLen => 3 | .lAcq => 4
  | .nLen => 2 | .nAcq => 3
  | .cClose => 1
  | .kClose => 2 | .kAcq => 3

def phi (s : State) (t : Nat) : Nat := phiOf s.tillFired (s.signalled t) (s.stalled t && !s.silent) (s.pc t)

theorem tOn_eq (s : State) (tl : Option Nat) : tOn s.tillFired tl = tillOn s tl := by cases tl <;> rfl

def rank (N : Nat) (s : State) : Nat := sumTo N (phi s)

def Below (N : Nat) (s : State) : Prop := ∀ t, N ≤ t → ∃ r, s.pc t = .idle r

variable {s s' : State} {t : Nat} {l : Label}

theorem phi_other (hs : step s t = some (s', l)) (u : Nat) (hu : u ≠ t) : phi s' u = phi s u := by
  obtain ⟨h1, h2, -, h3⟩ := step_frame hs
  obtain ⟨h4, h5, h6⟩ := h3 u hu
  simp only [phi, h1, h2, h4, h5, h6]

theorem phi_setPc (X : State) (t : Nat) (p' : PC) :
    phi (X.setPc t p') t = phiOf X.tillFired (X.signalled t) (X.stalled t && !X.silent) p' := by
  simp only [phi, State.setPc, if_pos]

theorem phi_step (h : Inv s) (hs : step s t = some (s', l)) : phi s' t < phi s t := by
  cases hp : s.pc t <;> simp only [step, hp, acquire] at hs
  -- the only row that needs the invariant: the flag this step resets, or the till, was up and pays for the next turn
  case' sWoke a tl => have hw : _ ∨ _ := h.ok hp rfl; rw [← tOn_eq] at hw
  case' sAcq | sParked | pAcq | pParked | oAcq | lAcq | nAcq | kAcq => obtain ⟨-, hs⟩ := Option.ite_none_right_eq_some.mp hs
  case' pPop | oPop => split at hs
  case' sAct a _ => rcases a with v | v | _ | ⟨v, vs⟩ <;> simp only at hs
  case' sAct.extend.cons => split at hs
  all_goals cases hs
  all_goals rw [phi_setPc, phi, hp]; grind [phiOf, tOn, b2n, actLen]

theorem run_length_le_rank {N : Nat} {tr : List (Nat × Label)} (h : Inv s) (hb : Below N s) (r : sys.Run s tr s') :
    tr.length + rank N s' ≤ rank N s :=
  Sys.Run.length_le_sumTo' sys phi Inv (fun _ _ _ _ => inv_step) (fun _ _ _ _ h hs => ⟨phi_step h hs, phi_other hs⟩) r h
    fun t ht => by obtain ⟨r, hr⟩ := hb t ht; simp only [phi, hr, phiOf]

end MoThreads.Queue
