/-
  M5 (ThreadTree): weights for a ranking function.  A thread id is worth `2^(N - id)`; children have larger ids than
  their parent and the lists hold distinct ids, so the children of a thread weigh less, together, than the thread itself:
  this is what pays for expanding `visit u` / `start u` into the work for u's children.
-/
import MoThreads.Proofs.TreeReg
namespace MoThreads.ThreadTree
open MoThreads

def lsum (f : Nat → Nat) : List Nat → Nat
  | [] => 0
  | a :: l => f a + lsum f l

theorem lsum_append (f : Nat → Nat) (a b : List Nat) : lsum f (a ++ b) = lsum f a + lsum f b := by
  induction a with
  | nil => simp [lsum]
  | cons x a ih => simp only [List.cons_append, lsum, ih]; omega

theorem lsum_reverse (f : Nat → Nat) (l : List Nat) : lsum f l.reverse = lsum f l := by
  induction l with
  | nil => rfl
  | cons x l ih => simp only [List.reverse_cons, lsum_append, lsum, ih]; omega

theorem lsum_erase (f : Nat → Nat) {a : Nat} {l : List Nat} (h : a ∈ l) : lsum f l = f a + lsum f (l.erase a) := by
  induction l with
  | nil => cases h
  | cons x l ih =>
    by_cases hx : x = a
    · subst hx; simp [lsum]
    · have hm : a ∈ l := by
        rcases List.mem_cons.mp h with h1 | h1
        · exact absurd h1.symm hx
        · exact h1
      rw [List.erase_cons_tail (by simpa using hx)]
      simp only [lsum, ih hm]; omega

def pw (N u : Nat) : Nat := 2 ^ (N - u)

theorem pw_pos (N u : Nat) : 0 < pw N u := Nat.pow_pos (by omega)

theorem lsum_pw_aux (N : Nat) : ∀ d, d ≤ N → ∀ l : List Nat, l.Nodup → (∀ c, c ∈ l → N - d ≤ c ∧ c < N) →
    lsum (pw N) l + 2 ≤ 2 * 2 ^ d := by
  intro d
  induction d with
  | zero =>
    intro _ l _ hr
    cases l with
    | nil => simp [lsum]
    | cons x l => have := hr x (by simp); omega
  | succ d ih =>
    intro hd l hn hr
    by_cases hm : (N - (d + 1)) ∈ l
    · rw [lsum_erase (pw N) hm]
      have hpw : pw N (N - (d + 1)) = 2 ^ (d + 1) := by unfold pw; congr 1; omega
      have := ih (by omega) (l.erase (N - (d + 1))) (hn.erase _) (by
        intro c hc
        have hc' := (List.Nodup.mem_erase_iff hn).mp hc
        have := hr c hc'.2
        omega)
      omega
    · have := ih (by omega) l hn (by
        intro c hc
        have := hr c hc
        have : c ≠ N - (d + 1) := fun he => hm (he ▸ hc)
        omega)
      omega

theorem lsum_pw_children {N u : Nat} {l : List Nat} (hn : l.Nodup) (hr : ∀ c, c ∈ l → u < c ∧ c < N) : lsum (pw N) l + 1 ≤ pw N u := by
  rcases Nat.lt_or_ge u N with hu | hu
  · have := lsum_pw_aux N (N - u - 1) (by omega) l hn (by intro c hc; have := hr c hc; omega)
    have h2 : pw N u = 2 * 2 ^ (N - u - 1) := by
      unfold pw
      have : N - u = (N - u - 1) + 1 := by omega
      rw [this, Nat.pow_succ]; simp; omega
    omega
  · cases l with
    | nil => have := pw_pos N u; simp [lsum]; omega
    | cons x l => have := hr x (by simp); omega

theorem lsum_pw_all {N : Nat} {l : List Nat} (hn : l.Nodup) (hr : ∀ c, c ∈ l → c < N) : lsum (pw N) l + 2 ≤ 2 * 2 ^ N :=
  lsum_pw_aux N N (Nat.le_refl _) l hn (by intro c hc; have := hr c hc; omega)

theorem lsum_mul (k : Nat) (f : Nat → Nat) (l : List Nat) : lsum (fun c => k * f c) l = k * lsum f l := by
  induction l with
  | nil => simp [lsum]
  | cons x l ih => simp only [lsum, ih, Nat.mul_add]

/-- `visit u` is replaced by `fire u` and a visit of each child of `u`; the children weigh less than `u`, together
(`lsum_pw_children`), so `2 * pw` pays for both -/
def wSA (N : Nat) : SAct → Nat
  | .visit u => 2 * pw N u
  | .fire _ => 1

def wS (N : Nat) : List SAct → Nat
  | [] => 0
  | a :: r => wSA N a + wS N r

/-- `start u` is replaced by a start of each child of `u` and the four actions for `u` itself (mark, wait, unreg, finish) -/
def wJA (N : Nat) : JAct → Nat
  | .start u => 5 * pw N u
  | _ => 1

def wJ (N : Nat) : List JAct → Nat
  | [] => 0
  | a :: r => wJA N a + wJ N r

theorem wS_append (N : Nat) (a b : List SAct) : wS N (a ++ b) = wS N a + wS N b := by
  induction a with
  | nil => simp [wS]
  | cons x a ih => simp only [List.cons_append, wS, ih]; omega

theorem wJ_append (N : Nat) (a b : List JAct) : wJ N (a ++ b) = wJ N a + wJ N b := by
  induction a with
  | nil => simp [wJ]
  | cons x a ih => simp only [List.cons_append, wJ, ih]; omega

theorem wS_visits (N : Nat) (l : List Nat) : wS N (l.map .visit) = 2 * lsum (pw N) l := by
  induction l with
  | nil => simp [wS, lsum]
  | cons x l ih => simp only [List.map_cons, wS, wSA, lsum, ih]; omega

theorem wJ_starts (N : Nat) (l : List Nat) : wJ N (l.map .start) = 5 * lsum (pw N) l := by
  induction l with
  | nil => simp [wJ, lsum]
  | cons x l ih => simp only [List.map_cons, wJ, wJA, lsum, ih]; omega

theorem wJ_filter_le (N : Nat) (p : JAct → Bool) (l : List JAct) : wJ N (l.filter p) ≤ wJ N l := by
  induction l with
  | nil => simp [wJ]
  | cons x l ih =>
    simp only [List.filter_cons]
    split
    · simp only [wJ]; omega
    · simp only [wJ]; omega

/-- a bound of the weight of any set of distinct threads -/
def PB (N : Nat) : Nat := 2 * 2 ^ N

/-- `MainThread.stop()` stops (2) and joins (5) twice: its children, then what the sweep finds in the registry; each is a set
of distinct threads, of weight at most `PB - 2` (`lsum_pw_all`): hence `2 * (7 * PB + 3)` and the single constants between
the phases.  `spawn c` weighs 3 before `c` is registered and 2 after; the start of `c` takes the rest, of which the new
thread gets the 1 of `created`. -/
def wCall (N : Nat) (ec : List Nat) : Call → Nat
  | .idle _ => 0
  | .spawn c => if c ∈ ec then 2 else 3
  | .releasing _ => 1
  | .stopping w => wS N w + 1
  | .joining _ w _ _ _ => wJ N w + 1
  | .m0 => 14 * PB N + 7
  | .m1 => 14 * PB N + 6
  | .mS cs w => wS N w + 1 + 5 * lsum (pw N) cs + 1 + (7 * PB N + 3)
  | .mJ _ w _ => wJ N w + 1 + (7 * PB N + 3)
  | .m2 _ _ => 7 * PB N + 3
  | .mRS _ _ res w => wS N w + 1 + 5 * lsum (pw N) res + 1
  | .mRJ _ _ _ w _ => wJ N w + 1

def wStopping (N : Nat) : Call → Nat
  | .stopping w => wS N w + 1
  | _ => 0

def wJoining (N : Nat) : Call → Nat
  | .joining _ w _ _ _ => wJ N w + 1
  | _ => 0

/-- upper bound of the steps thread `t` can still take without a new API call.  `7 = 2 + 5`: a thread whose target has
ended stops and then joins its children.  `.absent` and `.created` carry the weight of the call, so that start(), which
moves the spawner and the new thread at once, needs to know nothing of the new thread's call. -/
def wTh (N t : Nat) (ph : Phase) (c : Call) (ec : List Nat) : Nat :=
  match ph with
  | .absent => wCall N ec c
  | .created => 1 + wCall N ec c
  | .running => wCall N ec c
  | .peek _ => 7 * pw N t + 2
  | .fin1 => 7 * pw N t + 1
  | .fin2 cs => wStopping N c + 5 * lsum (pw N) cs + 6
  | .fin3 _ => wJoining N c + 4
  | .fin4 _ => 4
  | .fin5 _ => 3
  | .fin6 _ => 2
  | .linger => 1
  | .dead => 0

def rank (N : Nat) (s : State) : Nat := sumTo N (fun t => wTh N t (s.phase t) (s.call t) (s.everChild t))

theorem sumTo_one {n t : Nat} {f g : Nat → Nat} (ht : t < n) (h : ∀ u, u ≠ t → g u = f u) (hd : g t < f t) : sumTo n g < sumTo n f := by
  have := sumTo_update (n := n) (f := f) (g := g) ht (fun i hi => (h i hi).symm)
  omega

theorem sumTo_two {n t c : Nat} {f g : Nat → Nat} (ht : t < n) (hc : c < n) (htc : t ≠ c)
    (h : ∀ u, u ≠ t → u ≠ c → g u = f u) (hd : g t + g c < f t + f c) : sumTo n g < sumTo n f := by
  have h1 := sumTo_update (f := f) (g := upd f t (g t)) ht fun i hi => (upd_other _ _ hi).symm
  have h2 := sumTo_update (f := upd f t (g t)) (g := g) hc fun i hi => by
    by_cases hit : i = t
    · rw [hit, upd_same]
    · rw [upd_other _ _ hit, h i hit hi]
  rw [upd_same] at h1; rw [upd_other _ _ (Ne.symm htc)] at h2
  omega

end MoThreads.ThreadTree
