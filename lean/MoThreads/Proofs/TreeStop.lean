/-
  M5 (ThreadTree): the closure of `stop()` over the registered descendants (used by Props/C11).  While stop(p) walks, every
  thread that was `p` or registered below `p` when the call started stays *covered*: asked to stop, stopped, or within
  reach of an action still in the work list.  Other threads' moves keep it so because flags only go up and registrations
  are only added (`Frame`).
-/
import MoThreads.Props.C10
namespace MoThreads.ThreadTree

theorem desc_mono {s s' : State} (hm : ∀ p c, c ∈ s.everChild p → c ∈ s'.everChild p) {p d : Nat} (h : Desc s p d) : Desc s' p d := by
  induction h with
  | child hc => exact .child (hm _ _ hc)
  | step hc _ ih => exact .step (hm _ _ hc) ih

theorem desc_trans {s : State} {a b c : Nat} (h1 : Desc s a b) (h2 : Desc s b c) : Desc s a c := by
  induction h1 with
  | child hm => exact Desc.step hm h2
  | step hm _ ih => exact Desc.step hm (ih h2)

/-- the threads a pending action of stop() will still reach -/
def SAct.reach (s : State) : SAct → Nat → Prop
  | .fire u, d => d = u
  | .visit u, d => d = u ∨ Desc s u d

def Cov (s : State) (work : List SAct) (d : Nat) : Prop :=
  s.pstop d = true ∨ s.stopped d = true ∨ ∃ a, a ∈ work ∧ a.reach s d

theorem Cov.frame {s s' : State} {t : Nat} {work : List SAct} {d : Nat} (h : Cov s work d) (f : Frame s s' t) : Cov s' work d :=
  h.imp (f.pst d) <| Or.imp (f.stp d) fun ⟨a, ha, hr⟩ => ⟨a, ha, by
    cases a with
    | fire u => exact hr
    | visit u => exact hr.imp_right (desc_mono f.evr)⟩

/-- A visit of `u` hands every thread below `u` over to the visit of one of `u`'s listed children: a registered child
that is no longer listed has stopped, and so has everything below it. -/
theorem cov_stepStop {s s' : State} (hr : sys.Reach s) {t : Nat} {a : SAct} {rest : List SAct} {k : List SAct → Call} {l : Label}
    (hs : stepStop s t (a :: rest) k = some (s', l)) :
    s'.phase = s.phase ∧ ∃ work', s'.call t = k work' ∧ ∀ {d}, Cov s (a :: rest) d → Cov s' work' d := by
  have f := (frame_stepStop hs).1
  unfold stepStop at hs
  cases a with
  | visit u =>
    cases hs
    refine ⟨rfl, _, upd_same .., fun {d} h => Cov.frame ?_ f⟩
    have via : ∀ c, c ∈ s.everChild u → d = c ∨ Desc s c d → Cov s ((s.children u).map .visit ++ [.fire u] ++ rest) d := fun c hc hd =>
      ((reach_inv hr).ever u c hc).elim (fun h1 => Or.inr (Or.inr ⟨.visit c, by simp [h1], hd⟩))
        fun h1 => Or.inr (Or.inl (hd.elim (fun e => e ▸ h1) (C10_descendants_first hr c d h1)))
    rcases h with h | h | ⟨a, ha, hr⟩
    · exact Or.inl h
    · exact Or.inr (Or.inl h)
    · rcases List.mem_cons.mp ha with rfl | ha
      · rcases hr with rfl | hd
        · exact Or.inr (Or.inr ⟨.fire d, by simp, rfl⟩)
        · cases hd with
          | child hc => exact via _ hc (Or.inl rfl)
          | step hc hd' => exact via _ hc (Or.inr hd')
      · exact Or.inr (Or.inr ⟨a, by simp [ha], hr⟩)
  | fire u =>
    cases hs
    refine ⟨rfl, rest, upd_same .., fun {d} h => ?_⟩
    rcases h with h | h | ⟨a, ha, hr⟩
    · exact Or.inl (f.pst d h)
    · exact Or.inr (Or.inl h)
    · rcases List.mem_cons.mp ha with rfl | ha
      · exact Or.inl (by rw [show d = u from hr]; exact upd_same ..)
      · exact Cov.frame (Or.inr (Or.inr ⟨a, ha, hr⟩)) f

inductive Seg : State → State → Prop
  | refl {s} : Seg s s
  | env {s s' s''} : Seg s s' → sys.env s' s'' → Seg s s''
  | step {s s' s'' t l} : Seg s s' → step s' t = some (s'', l) → Seg s s''

theorem Seg.reach {s s' : State} (h : sys.Reach s) (g : Seg s s') : sys.Reach s' := by
  induction g with
  | refl => exact h
  | env _ he ih => exact Sys.Reach.env ih he
  | step _ hs ih => exact Sys.Reach.step ih hs

/-- `stop(p)`, called by `t` in `s0`, is still walking in `s` with every target (`p` and what was registered below it in
`s0`) covered, or has left every target asked to stop or stopped -/
def Walk (s0 s : State) (t p : Nat) : Prop :=
  (s.phase t = .running ∧ ∃ work, s.call t = .stopping work ∧ ∀ d, d = p ∨ Desc s0 p d → Cov s work d) ∨
  ∀ d, d = p ∨ Desc s0 p d → s.pstop d = true ∨ s.stopped d = true

theorem Walk.frame {s0 s s' : State} {t p t' : Nat} (h : Walk s0 s t p) (f : Frame s s' t')
    (hp : s.phase t = .running → s'.phase t = s.phase t) (hc : s'.call t = s.call t) : Walk s0 s' t p :=
  h.imp (fun ⟨hph, work, hcl, hcov⟩ => ⟨by rw [hp hph, hph], work, by rw [hc, hcl], fun d hd => (hcov d hd).frame f⟩)
    fun h d hd => (h d hd).imp (f.pst d) (f.stp d)

theorem Walk.done {s0 s : State} {t p : Nat} (h : Walk s0 s t p) (hc : ∀ a w, s.call t ≠ .stopping (a :: w)) (d : Nat)
    (hd : d = p ∨ Desc s0 p d) : s.pstop d = true ∨ s.stopped d = true := by
  rcases h with ⟨_, work, hcl, hcov⟩ | h
  · cases work with
    | cons a w => exact absurd hcl (hc a w)
    | nil => exact (hcov d hd).imp_right fun h => h.resolve_right fun ⟨_, ha, _⟩ => nomatch ha
  · exact h d hd

theorem walk_seg {s0 s1 : State} {t p : Nat} (h0 : sys.Reach s0) (hph : s0.phase t = .running)
    (hc : s0.call t = .stopping [.visit p]) (g : Seg s0 s1) : Walk s0 s1 t p := by
  induction g with
  | refl => exact Or.inl ⟨hph, _, hc, fun d hd => Or.inr (Or.inr ⟨.visit p, List.mem_cons_self .., hd⟩)⟩
  | @env s s' g he ih =>
    rcases he with ⟨t', op, hcall⟩ | ⟨x, rfl⟩ | ⟨x, rfl⟩
    · obtain ⟨f, r, hidle⟩ := frame_call hcall
      by_cases hne : t = t'
      · subst hne
        rcases ih with ⟨_, work, hcl, _⟩ | h
        · rw [hcl] at hidle; cases hidle
        · exact Or.inr fun d hd => (h d hd).imp (f.pst d) (f.stp d)
      · exact ih.frame f (fun hp => f.phase_eq (reach_inv (g.reach h0)) hne (by rw [hp]; nofun)) (f.cal t hne)
    all_goals exact ih.frame (t' := t) ⟨fun _ h => h, fun _ h => h, fun _ _ h => h, fun _ _ => rfl, fun _ _ => .inl rfl⟩ (fun _ => rfl) rfl
  | @step s s' t' l g hs ih =>
    have hr := g.reach h0
    have f := (frame_step hs).1
    by_cases hne : t = t'
    · subst hne
      rcases ih with ⟨hph', work, hcl, hcov⟩ | h
      · unfold step at hs; rw [hph'] at hs; simp only [hcl] at hs
        cases work with
        | nil =>
          cases hs
          exact Or.inr fun d hd => (hcov d hd).imp_right fun h => h.resolve_right fun ⟨_, ha, _⟩ => nomatch ha
        | cons a rest =>
          obtain ⟨hp', w', hc', hcv⟩ := cov_stepStop hr hs
          exact Or.inl ⟨by rw [hp', hph'], w', hc', fun d hd => hcv (hcov d hd)⟩
      · exact Or.inr fun d hd => (h d hd).imp (f.pst d) (f.stp d)
    · exact ih.frame f (fun hp => f.phase_eq (reach_inv hr) hne (by rw [hp]; nofun)) (f.cal t hne)

end MoThreads.ThreadTree
