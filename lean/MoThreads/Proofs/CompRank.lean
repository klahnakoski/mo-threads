/-
  M2 (Composite): a ranking function.  A cascade of go() over composites terminates: every pending action has a weight that
  covers everything its execution can push (building an OR: 15, an AND: 11; `then`: 1 + the callback; running an OrSignal's
  cleanup: 1 + its operand list; everything else 1 or 2), and the callbacks waiting on an untriggered signal are carried by
  the signal until go() moves them, with the same weights, onto the pending list of the thread that triggers it.
-/
import MoThreads.Proofs.CompLive
namespace MoThreads.Composite
open MoThreads

/-- steps the execution of a callback can still cause (given the operand lists of the OrSignal objects) -/
def wtJ (ors : Nat → OrObj) : Job → Nat
  | .orHook _ _ => 2
  | .orCleanup o => 1 + (ors o).deps.length
  | .andDone _ _ => 2
  | .andCleanup _ => 1
  | .user _ => 1

def wtA (ors : Nat → OrObj) : Act → Nat
  | .orTest1 .. => 15 | .orTest2 .. => 14 | .orNew .. => 13 | .andNew .. => 11
  | .thenJ _ j => 1 + wtJ ors j
  | .run j => wtJ ors j
  | .goS _ _ => 1 | .removeJ _ _ => 1 | .ret _ _ => 2 | .retDone => 1 | .waitS _ => 1

def sumJ (ors : Nat → OrObj) : List Job → Nat
  | [] => 0
  | j :: l => wtJ ors j + sumJ ors l

def sumA (ors : Nat → OrObj) : List Act → Nat
  | [] => 0
  | a :: l => wtA ors a + sumA ors l

/-- what the callbacks waiting on an untriggered signal will cost when it is triggered -/
def sigPot (ors : Nat → OrObj) (v : Sig) : Nat := if v.go then 0 else sumJ ors v.jobs

def rank (s : State) : Nat :=
  sumTo NT (fun t => sumA s.ors (s.todo t)) + sumTo s.nSig (fun z => sigPot s.ors (s.sigs z))

theorem sumJ_append (ors : Nat → OrObj) (a b : List Job) : sumJ ors (a ++ b) = sumJ ors a + sumJ ors b := by
  induction a with
  | nil => simp [sumJ]
  | cons x a ih => simp only [List.cons_append, sumJ, ih]; omega

theorem sumA_append (ors : Nat → OrObj) (a b : List Act) : sumA ors (a ++ b) = sumA ors a + sumA ors b := by
  induction a with
  | nil => simp [sumA]
  | cons x a ih => simp only [List.cons_append, sumA, ih]; omega

theorem sumA_run (ors : Nat → OrObj) (l : List Job) : sumA ors (l.map Act.run) = sumJ ors l := by
  induction l with
  | nil => rfl
  | cons x l ih => simp only [List.map_cons, sumA, sumJ, wtA, ih]

theorem sumJ_erase_le (ors : Nat → OrObj) (l : List Job) (j : Job) : sumJ ors (l.erase j) ≤ sumJ ors l := by
  induction l with
  | nil => simp [sumJ]
  | cons x l ih =>
    by_cases hx : x = j
    · subst hx; simp [sumJ]
    · rw [List.erase_cons_tail (by simpa using hx)]; simp only [sumJ]; omega

theorem sumA_removeJ {α : Type} (ors : Nat → OrObj) (l : List α) (f : α → Nat) (g : α → Job) :
    sumA ors (l.map fun x => Act.removeJ (f x) (g x)) = l.length := by
  induction l with
  | nil => rfl
  | cons x l ih => simp only [List.map_cons, sumA, wtA, ih, List.length_cons]; omega

theorem wtJ_le {ors ors' : Nat → OrObj} {j : Job} (h : ∀ o, j.orObj = some o → (ors' o).deps.length ≤ (ors o).deps.length) :
    wtJ ors' j ≤ wtJ ors j := by
  cases j <;> simp only [wtJ] <;> (try omega)
  rename_i o; have := h o rfl; omega

theorem sumJ_le {ors ors' : Nat → OrObj} {l : List Job}
    (h : ∀ j, j ∈ l → ∀ o, j.orObj = some o → (ors' o).deps.length ≤ (ors o).deps.length) :
    sumJ ors' l ≤ sumJ ors l := by
  induction l with
  | nil => simp [sumJ]
  | cons x l ih => have := wtJ_le (h x (by simp)); have := ih (fun j hj => h j (by simp [hj])); simp only [sumJ]; omega

theorem sumA_le {ors ors' : Nat → OrObj} {l : List Act}
    (h : ∀ a, a ∈ l → ∀ j, a.job = some j → ∀ o, j.orObj = some o → (ors' o).deps.length ≤ (ors o).deps.length) :
    sumA ors' l ≤ sumA ors l := by
  induction l with
  | nil => simp [sumA]
  | cons x l ih =>
    have := ih (fun a ha => h a (by simp [ha]))
    have : wtA ors' x ≤ wtA ors x := by
      cases x <;> simp only [wtA] <;> (try omega)
      · rename_i d j; have := wtJ_le (h (.thenJ d j) (by simp) j rfl); omega
      · rename_i j; exact wtJ_le (h (.run j) (by simp) j rfl)
    simp only [sumA]; omega

theorem sumTo_le {n : Nat} {f g : Nat → Nat} (h : ∀ i, i < n → g i ≤ f i) : sumTo n g ≤ sumTo n f := sumTo_le_add (c := 0) h

def Tsum (ors : Nat → OrObj) (todo : Nat → List Act) : Nat := sumTo NT (fun t => sumA ors (todo t))
def Ssum (ors : Nat → OrObj) (n : Nat) (sigs : Nat → Sig) : Nat := sumTo n (fun z => sigPot ors (sigs z))

theorem rank_eq (s : State) : rank s = Tsum s.ors s.todo + Ssum s.ors s.nSig s.sigs := rfl

theorem Tsum_upd (ors : Nat → OrObj) (todo : Nat → List Act) {t : Nat} (ht : t < NT) (l : List Act) :
    Tsum ors (upd todo t l) + sumA ors (todo t) = Tsum ors todo + sumA ors l := sumTo_upd (sumA ors) ht todo l

theorem Ssum_upd (ors : Nat → OrObj) {n d : Nat} (hd : d < n) (sigs : Nat → Sig) (v : Sig) :
    Ssum ors n (upd sigs d v) + sigPot ors (sigs d) = Ssum ors n sigs + sigPot ors v := sumTo_upd (sigPot ors) hd sigs v

theorem rank_lt_todo {s : State} {t : Nat} {a : Act} {rest l : List Act} {r : Nat → Option Nat} (ht : t < NT) (hs : s.todo t = a :: rest)
    (hd : sumA s.ors l < wtA s.ors a + sumA s.ors rest) : rank { s with todo := upd s.todo t l, result := r } < rank s := by
  show Tsum s.ors (upd s.todo t l) + Ssum s.ors s.nSig s.sigs < Tsum s.ors s.todo + Ssum s.ors s.nSig s.sigs
  have := Tsum_upd s.ors s.todo ht l
  rw [hs] at this
  simp only [sumA] at this
  omega

theorem rank_lt_sig {s : State} {t d : Nat} {v : Sig} {a : Act} {rest l : List Act} {r : Nat → Option Nat}
    (ht : t < NT) (hs : s.todo t = a :: rest)
    (hdn : d < s.nSig) (hd : sumA s.ors l + sigPot s.ors v < wtA s.ors a + sumA s.ors rest + sigPot s.ors (s.sigs d)) :
    rank { s with sigs := upd s.sigs d v, todo := upd s.todo t l, result := r } < rank s := by
  show Tsum s.ors (upd s.todo t l) + Ssum s.ors s.nSig (upd s.sigs d v) < Tsum s.ors s.todo + Ssum s.ors s.nSig s.sigs
  have h1 := Tsum_upd s.ors s.todo ht l
  have h2 := Ssum_upd s.ors hdn s.sigs v
  rw [hs] at h1
  simp only [sumA] at h1
  omega

theorem Ssum_new (ors : Nat → OrObj) (n : Nat) (sigs : Nat → Sig) (v : Sig) :
    Ssum ors (n + 1) (upd sigs n v) = Ssum ors n sigs + sigPot ors v := by
  unfold Ssum
  simp only [sumTo, upd, if_true]
  congr 1
  exact sumTo_congr (fun i hi => by simp only [show ¬ i = n by omega, if_false])

theorem pot_le {ors ors' : Nat → OrObj} {todo : Nat → List Act} {n : Nat} {sigs : Nat → Sig}
    (hT : ∀ u, u < NT → ∀ a, a ∈ todo u → ∀ j, a.job = some j → ∀ o, j.orObj = some o → (ors' o).deps.length ≤ (ors o).deps.length)
    (hS : ∀ z j, j ∈ (sigs z).jobs → ∀ o, j.orObj = some o → (ors' o).deps.length ≤ (ors o).deps.length) :
    Tsum ors' todo + Ssum ors' n sigs ≤ Tsum ors todo + Ssum ors n sigs := by
  have h1 : Tsum ors' todo ≤ Tsum ors todo := sumTo_le (fun u hu => sumA_le (hT u hu))
  have h2 : Ssum ors' n sigs ≤ Ssum ors n sigs := by
    refine sumTo_le (fun z _ => ?_)
    unfold sigPot; split
    · omega
    · exact sumJ_le (hS z)
  omega

theorem rank_exec {s s' : State} {t : Nat} {a : Act} {rest : List Act} (h : InvL s) (ht : t < NT) (hs : s.todo t = a :: rest)
    (he : exec s t a rest = some s') : rank s' < rank s := by
  have hlt : ∀ z, z ∈ a.sigs → z < s.nSig := fun z => h.M1 a z ⟨t, ht, by rw [hs]; simp⟩
  unfold exec at he
  cases a with
  | orTest1 x y w | orTest2 x y w =>
    cases he
    exact rank_lt_todo ht hs (by split <;> simp [sumA, wtA])
  | retDone => cases he; exact rank_lt_todo ht hs (by simp [wtA])
  | waitS c =>
    simp only at he; split at he <;> cases he
    exact rank_lt_todo ht hs (by simp [wtA])
  | orNew x y w =>
    cases he
    rw [rank_eq, rank_eq]
    let X : OrObj := { deps := [x, y], target := s.nSig, deps0 := [x, y] }
    let new : List Act := [Act.thenJ x (.orHook s.nOr 0), Act.thenJ y (.orHook s.nOr 1),
      Act.thenJ s.nSig (.orCleanup s.nOr), Act.ret s.nSig w]
    show Tsum (upd s.ors s.nOr X) (upd s.todo t (new ++ rest))
        + Ssum (upd s.ors s.nOr X) (s.nSig + 1) (upd s.sigs s.nSig (freshSig (.orOut s.nOr))) < _
    have h1 := Tsum_upd (upd s.ors s.nOr X) s.todo ht (new ++ rest)
    -- nothing that exists refers to the object just made
    have old : ∀ o, o < s.nOr → ((upd s.ors s.nOr X) o).deps.length ≤ (s.ors o).deps.length := fun o ho => by simp [upd, Nat.ne_of_lt ho]
    have h2 := pot_le (ors := s.ors) (ors' := upd s.ors s.nOr X) (todo := s.todo) (n := s.nSig) (sigs := s.sigs)
      (fun u hu a ha j hj o ho => old o (h.M2o a j o ⟨u, hu, ha⟩ hj ho)) (fun z j hj o ho => old o (h.M3o z j o hj ho))
    have h5 : sumA (upd s.ors s.nOr X) new = 12 := by
      simp only [new, sumA, wtA, wtJ, upd, if_true, X, List.length_cons, List.length_nil]
    rw [hs, sumA_append, h5] at h1
    simp only [sumA, wtA] at h1
    rw [Ssum_new]
    simp only [sigPot, freshSig, sumJ, Bool.false_eq_true, if_false]
    omega
  | andNew x y =>
    cases he
    rw [rank_eq, rank_eq]
    show Tsum s.ors (upd s.todo t (Act.thenJ x (.andDone s.nAnd 0) :: Act.thenJ y (.andDone s.nAnd 1)
        :: Act.thenJ s.nSig (.andCleanup s.nAnd) :: Act.ret s.nSig false :: rest))
        + Ssum s.ors (s.nSig + 1) (upd s.sigs s.nSig (freshSig (.andOut s.nAnd))) < _
    have h1 := Tsum_upd s.ors s.todo ht (Act.thenJ x (.andDone s.nAnd 0) :: Act.thenJ y (.andDone s.nAnd 1)
      :: Act.thenJ s.nSig (.andCleanup s.nAnd) :: Act.ret s.nSig false :: rest)
    rw [hs] at h1
    simp only [sumA, wtA, wtJ] at h1
    rw [Ssum_new]
    simp only [sigPot, freshSig, sumJ, Bool.false_eq_true, if_false]
    omega
  | thenJ d j =>
    simp only at he; split at he <;> cases he
    · exact rank_lt_todo ht hs (by simp [sumA, wtA])
    · rename_i hgo
      refine rank_lt_sig ht hs (hlt d (by simp [Act.sigs])) ?_
      simp only [wtA, sigPot, hgo, Bool.false_eq_true, if_false, sumJ_append, sumJ]
      omega
  | run j =>
    cases j with
    | orHook o i | andDone n i =>
      cases he
      exact rank_lt_todo ht hs (by split <;> simp [sumA, wtA, wtJ])
    | andCleanup _ | user _ =>
      cases he
      exact rank_lt_todo ht hs (by simp [wtA, wtJ])
    | orCleanup o =>
      cases he
      let X : OrObj := { s.ors o with deps := [] }
      have hle : ∀ o', ((upd s.ors o X) o').deps.length ≤ (s.ors o').deps.length := by
        intro o'; simp only [upd]; split
        · simp [X]
        · exact Nat.le_refl _
      let new : List Act := (s.ors o).deps.zipIdx.map fun (d, i) => Act.removeJ d (.orHook o i)
      rw [rank_eq, rank_eq]
      show Tsum (upd s.ors o X) (upd s.todo t (new ++ rest)) + Ssum (upd s.ors o X) s.nSig s.sigs < _
      have h1 := pot_le (ors := s.ors) (ors' := upd s.ors o X) (todo := upd s.todo t (new ++ rest)) (n := s.nSig) (sigs := s.sigs)
        (fun _ _ _ _ _ _ o' _ => hle o') (fun _ _ _ o' _ => hle o')
      have h3 := Tsum_upd s.ors s.todo ht (new ++ rest)
      have h4 : sumA s.ors new = (s.ors o).deps.length := (sumA_removeJ s.ors _ Prod.fst fun p => .orHook o p.2).trans List.length_zipIdx
      rw [hs] at h3
      simp only [sumA_append, sumA, wtA, wtJ, h4] at h3
      omega
  | goS x direct =>
    simp only at he; split at he <;> cases he
    · exact rank_lt_todo ht hs (by simp [wtA])
    · rename_i hgo
      have hg : (s.sigs x).go = false := by
        cases hh : (s.sigs x).go
        · rfl
        · rw [hh] at hgo; simp at hgo
      refine rank_lt_sig ht hs (hlt x (by simp [Act.sigs])) ?_
      simp only [sumA_append, sumA_run, wtA, sigPot, hg, Bool.false_eq_true, if_false, if_true]
      omega
  | removeJ d j =>
    simp only at he; split at he <;> cases he
    · exact rank_lt_todo ht hs (by simp [wtA])
    · rename_i hgo
      refine rank_lt_sig ht hs (hlt d (by simp [Act.sigs])) ?_
      have := sumJ_erase_le s.ors (s.sigs d).jobs j
      simp only [wtA, sigPot, hgo, Bool.false_eq_true, if_false]
      omega
  | ret c w =>
    simp only at he; split at he <;> cases he
    · exact rank_lt_todo ht hs (by simp [sumA, wtA])
    · refine rank_lt_sig ht hs (hlt c (by simp [Act.sigs])) ?_
      simp only [wtA, sigPot]
      omega

theorem rank_step {s s' : State} {t : Nat} {l : Label} (h : InvL s) (hs : step s t = some (s', l)) : rank s' < rank s := by
  obtain ⟨a, rest, ht, htd, he, _⟩ := step_spec hs
  exact rank_exec h ht htd he

theorem run_length_le_rank {s s' : State} {tr : List (Nat × Label)} (h : InvL s) (r : sys.Run s tr s') :
    tr.length + rank s' ≤ rank s :=
  Sys.Run.length_le_rank_inv sys rank InvL (fun _ _ _ _ hP hs => invL_step hP hs) (fun _ _ _ _ hP hs => rank_step hP hs) r h

theorem quiescent_todo {s : State} (hq : sys.Quiescent s) (t : Nat) (ht : t < NT) :
    s.todo t = [] ∨ ∃ c rest, s.todo t = .waitS c :: rest ∧ (s.sigs c).go = false := by
  have hs : step s t = none := hq t
  unfold step at hs
  simp only [ht, if_true] at hs
  cases htd : s.todo t with
  | nil => exact Or.inl rfl
  | cons a rest =>
    right
    rw [htd] at hs
    unfold exec at hs
    cases a with
    | waitS c =>
      simp only at hs
      cases hg : (s.sigs c).go with
      | false => exact ⟨c, rest, rfl, hg⟩
      | true => rw [hg] at hs; simp at hs
    | thenJ _ _ | goS _ _ | removeJ _ _ | ret _ _ => simp only at hs; split at hs <;> cases hs
    | run j => cases j <;> cases hs
    | _ => cases hs

end MoThreads.Composite
