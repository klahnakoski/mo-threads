/-
  M2: OR hooks do not leak (C15): every hook registered on an operand is covered by a cleanup that is
  registered on the live, untriggered composite, still to be registered, running, or already removing it.
  The invariant is stated per OrSignal (`OrInv`): an OrSignal made by a move is treated once, apart from those that exist.
-/
import MoThreads.Proofs.CompLive
namespace MoThreads.Composite

/-- why the hook `orHook o i` sitting in the job list of `z` will not stay there for ever -/
def Guard (s : State) (z o i : Nat) : Prop :=
  ((s.ors o).deps = (s.ors o).deps0 ∧ InTodos s (.thenJ (s.ors o).target (.orCleanup o)))
  ∨ ((s.ors o).deps = (s.ors o).deps0 ∧ Job.orCleanup o ∈ (s.sigs (s.ors o).target).jobs ∧
      (s.sigs (s.ors o).target).alive = true ∧ (s.sigs (s.ors o).target).go = false)
  ∨ ((s.ors o).deps = (s.ors o).deps0 ∧ InTodos s (.run (.orCleanup o)))
  ∨ InTodos s (.removeJ z (.orHook o i))

/-- in a pending list every `then(hook)` of an OrSignal is followed, later in the same list, by the `then(cleanup)` on its composite -/
def HB (tg : Nat → Nat) (l : List Act) : Prop :=
  ∀ l1 l2 z o i, l = l1 ++ Act.thenJ z (.orHook o i) :: l2 → Act.thenJ (tg o) (.orCleanup o) ∈ l2

theorem HB.tail {tg : Nat → Nat} {a : Act} {l : List Act} (h : HB tg (a :: l)) : HB tg l := by
  intro l1 l2 z o i he
  exact h (a :: l1) l2 z o i (by rw [he]; rfl)

theorem HB.nil (tg : Nat → Nat) : HB tg [] := by
  intro l1 l2 z o i he
  have := congrArg List.length he
  simp at this

theorem HB.cons {tg : Nat → Nat} {a : Act} {l : List Act} (ha : ∀ z o i, a ≠ .thenJ z (.orHook o i)) (h : HB tg l) : HB tg (a :: l) := by
  intro l1 l2 z o i he
  cases l1 with
  | nil => simp only [List.nil_append, List.cons.injEq] at he; exact absurd he.1 (ha z o i)
  | cons b l1' =>
    simp only [List.cons_append, List.cons.injEq] at he
    exact h l1' l2 z o i he.2

theorem HB.append {tg : Nat → Nat} {pre l : List Act} (hp : ∀ b, b ∈ pre → ∀ z o i, b ≠ .thenJ z (.orHook o i)) (h : HB tg l) : HB tg (pre ++ l) := by
  induction pre with
  | nil => exact h
  | cons a r ih =>
    exact HB.cons (hp a List.mem_cons_self) (ih (fun b hb => hp b (List.mem_cons_of_mem _ hb)))

theorem HB.congr {tg tg' : Nat → Nat} {l : List Act} (h : HB tg l)
    (he : ∀ z o i, Act.thenJ z (.orHook o i) ∈ l → tg' o = tg o) : HB tg' l := by
  intro l1 l2 z o i hl
  have hm : Act.thenJ z (.orHook o i) ∈ l := by rw [hl]; simp
  rw [he z o i hm]; exact h l1 l2 z o i hl

theorem HB.mem {tg : Nat → Nat} {l : List Act} (h : HB tg l) {z o i : Nat} (hm : Act.thenJ z (.orHook o i) ∈ l) :
    Act.thenJ (tg o) (.orCleanup o) ∈ l := by
  obtain ⟨l1, l2, he⟩ := List.append_of_mem hm
  have := h l1 l2 z o i he
  rw [he]; exact List.mem_append_right _ (List.mem_cons_of_mem _ this)

theorem HB.cons_hook {tg : Nat → Nat} {z o i : Nat} {l : List Act} (hm : Act.thenJ (tg o) (.orCleanup o) ∈ l) (h : HB tg l) :
    HB tg (Act.thenJ z (.orHook o i) :: l) := by
  intro l1 l2 z' o' i' he
  cases l1 with
  | nil => cases he; exact hm
  | cons b l1' => exact h l1' l2 z' o' i' (List.cons.inj he).2

theorem TodoChg.hb {s s' : State} {t : Nat} {hd : Option Act} {new : List Act} (c : TodoChg s s' t hd new) {tg : Nat → Nat}
    (h : ∀ u, u < NT → HB tg (s.todo u)) (hn : ∀ rest, HB tg rest → HB tg (new ++ rest)) (u : Nat) (hu : u < NT) : HB tg (s'.todo u) := by
  obtain ⟨rest, hs, hs'⟩ := c.ex
  rw [hs']; unfold upd; split
  · have := h t c.ht; rw [hs] at this
    cases hd with
    | none => exact hn _ this
    | some a => exact hn _ this.tail
  · exact h u hu

theorem tgt_inj {s : State} (hl : InvL s) {o o' : Nat} (ho : o < s.nOr) (ho' : o' < s.nOr) (he : (s.ors o).target = (s.ors o').target) : o = o' := by
  have h1 := (hl.F1 o ho).2
  rw [he, (hl.F1 o' ho').2] at h1; injection h1 with h3; exact h3.symm

/-- a live, untriggered OR composite holds its OrSignal strongly: the cleanup is in its job list or about to be put there
(the AND counterpart is `InvL.Ka`) -/
def Ko (s : State) (o : Nat) : Prop :=
  (s.sigs (s.ors o).target).alive = true → (s.sigs (s.ors o).target).go = false →
    Job.orCleanup o ∈ (s.sigs (s.ors o).target).jobs ∨ InTodos s (.thenJ (s.ors o).target (.orCleanup o))

structure OrInv (s : State) (o : Nat) : Prop where
  twoOpds     : o < s.nOr → ∃ x y, (s.ors o).deps0 = [x, y]
  hookAtOpd   : ∀ z i, Job.orHook o i ∈ (s.sigs z).jobs → (s.ors o).deps0[i]? = some z
  thenAtOpd   : ∀ z i, InTodos s (.thenJ z (.orHook o i)) → (s.ors o).deps0[i]? = some z
  hookOnce    : ∀ z i, cnt s (.thenJ z (.orHook o i)) + (s.sigs z).jobs.count (.orHook o i) ≤ 1
  cleanupOnce : ∀ z, cnt s (.thenJ z (.orCleanup o)) ≤ 1
  whileWiring : InTodos s (.thenJ (s.ors o).target (.orCleanup o)) →
        (s.ors o).deps = (s.ors o).deps0 ∧ Job.orCleanup o ∉ (s.sigs (s.ors o).target).jobs ∧ ¬ InTodos s (.run (.orCleanup o))
        ∧ (∀ z i, ¬ InTodos s (.removeJ z (.orHook o i)))
  hookCovered : ∀ z i, Job.orHook o i ∈ (s.sigs z).jobs → Guard s z o i
  owned       : o < s.nOr → Ko s o

structure InvH (s : State) : Prop where
  goNoJobs : ∀ z, (s.sigs z).go = true → (s.sigs z).jobs = []
  deadNoJobs : ∀ z, (s.sigs z).alive = false → (s.sigs z).jobs = []
  thenAlive : ∀ d j, InTodos s (.thenJ d j) → (s.sigs d).alive = true
  cleanupFollows : ∀ t, t < NT → HB (fun o => (s.ors o).target) (s.todo t)
  orInv : ∀ o, OrInv s o

theorem OrInv.vacuous {s : State} {o : Nat} (hl : InvL s) (ho : ¬ o < s.nOr) : OrInv s o := by
  have noJob : ∀ z j, j.orObj = some o → j ∉ (s.sigs z).jobs := fun z j e hj => ho (hl.M3o z j o hj e)
  have noAct : ∀ b j, b.job = some j → j.orObj = some o → ¬ InTodos s b := fun b j e e' hb => ho (hl.M2o b j o hb e e')
  exact {
    twoOpds := fun h => absurd h ho
    hookAtOpd := fun z i hj => absurd hj (noJob z _ rfl)
    thenAtOpd := fun z i hp => absurd hp (noAct _ _ rfl rfl)
    hookOnce := fun z i => by rw [cnt_zero.mpr (noAct _ _ rfl rfl), List.count_eq_zero.mpr (noJob z _ rfl)]; exact Nat.zero_le _
    cleanupOnce := fun z => by rw [cnt_zero.mpr (noAct _ _ rfl rfl)]; exact Nat.zero_le _
    whileWiring := fun hp => absurd hp (noAct _ _ rfl rfl)
    hookCovered := fun z i hj => absurd hj (noJob z _ rfl)
    owned := fun h => absurd h ho }

theorem invH_init : InvH init :=
  ⟨fun z _ => init_jobs z, fun z _ => init_jobs z, fun _ _ h => absurd h (inTodos_init _),
    fun _ _ => HB.nil _, fun o => .vacuous invL_init (Nat.not_lt_zero o)⟩

theorem invH_move {s s' : State} {t : Nat} {hd : Option Act} {new : List Act} (hl : InvL s) (h : InvH s)
    (m : Move s s' t hd new) : InvH s' := by
  have hl' := invL_move hl m
  have aok : ∀ a, hd = some a → ActOK s a := fun a e => actOK_of_inv hl (m.td.head e)
  have live : ∀ z, z < s.nSig → (s.sigs z).alive = true → (s'.sigs z).alive = true := fun z hz ha => (m.alive z hz).trans ha
  have a1 : ∀ z, (s'.sigs z).go = true → (s'.sigs z).jobs = [] := fun z hz => by
    cases Nat.lt_or_ge z s.nSig with
    | inr hge => exact m.jobs_new hl hge
    | inl hlt =>
      cases hg : (s.sigs z).go with
      | true => rw [(m.go z hlt hg).2.2]; exact h.goNoJobs z hg
      | false => obtain ⟨_, _, h⟩ := m.rose hlt hg hz; exact h
  have untriggered : ∀ {z j}, j ∈ (s'.sigs z).jobs → (s'.sigs z).go = false := fun {z _} hj => by
    cases hg : (s'.sigs z).go with
    | false => rfl
    | true => rw [a1 z hg] at hj; cases hj
  constructor
  case goNoJobs => exact a1
  case deadNoJobs =>
    intro z hz
    cases Nat.lt_or_ge z s.nSig with
    | inr hge => exact m.jobs_new hl hge
    | inl hlt =>
      rw [m.alive z hlt] at hz
      exact List.eq_nil_iff_forall_not_mem.mpr fun j hj => (m.jsrc z j hj).elim (fun h1 => by rw [h.deadNoJobs z hz] at h1; cases h1)
        fun e => by rw [h.thenAlive z j (m.td.head e)] at hz; cases hz
  case thenAlive =>
    intro d j hp
    rcases m.td.sub hp with h1 | h1
    · rcases m.src _ h1 with ⟨_, _, hd', ha⟩ | ⟨x, y, w, e, _⟩ | ⟨x, y, e, _⟩
      · exact live d hd' ha
      · obtain ⟨_, e2, _, _, _, e5⟩ := m.ran e
        rw [e5] at h1
        simp only [List.mem_cons, List.mem_nil_iff, or_false, reduceCtorEq] at h1
        rcases h1 with h1 | h1 | h1 <;> cases h1
        · exact live d ((aok _ e).sigInHeap d (.head _)) ((aok _ e).opdsAlive d (.head _))
        · exact live d ((aok _ e).sigInHeap d (.tail _ (.head _))) ((aok _ e).opdsAlive d (.tail _ (.head _)))
        · exact (m.fresh _ (Nat.le_refl _) (by omega)).2.2.2.1
      · obtain ⟨_, e2, _, _, _, _, e5⟩ := m.ran e
        rw [e5] at h1
        simp only [List.mem_cons, List.mem_nil_iff, or_false, reduceCtorEq] at h1
        rcases h1 with h1 | h1 | h1 <;> cases h1
        · exact live d ((aok _ e).sigInHeap d (.head _)) ((aok _ e).opdsAlive d (.head _))
        · exact live d ((aok _ e).sigInHeap d (.tail _ (.head _))) ((aok _ e).opdsAlive d (.tail _ (.head _)))
        · exact (m.fresh _ (Nat.le_refl _) (by omega)).2.2.2.1
    · exact live d (hl.M1 _ d h1 (.head _)) (h.thenAlive d j h1)
  case cleanupFollows =>
    -- the old lists register hooks of OrSignals that exist, whose composites are the same; the OrSignal just made comes with its cleanup
    have old : ∀ u, u < NT → HB (fun o => (s'.ors o).target) (s.todo u) := fun u hu =>
      (h.cleanupFollows u hu).congr fun z o i hm => (m.ors o (hl.M2o _ _ o ⟨u, hu, hm⟩ rfl rfl)).2.1
    refine m.td.hb old fun rest hr => ?_
    by_cases e : ∃ x y w, hd = some (.orNew x y w)
    · obtain ⟨x, y, w, e⟩ := e
      obtain ⟨_, _, _, _, e4, e5⟩ := m.ran e
      rw [e5]
      exact HB.cons_hook (by rw [e4]; simp) (.cons_hook (by rw [e4]; simp) (.cons nofun (.cons nofun hr)))
    · refine HB.append (fun b hb z o i e' => ?_) hr
      rcases m.src _ (e' ▸ hb) with ⟨_, h1, _⟩ | ⟨x, y, w, h1, _⟩ | ⟨_, _, _, h1⟩
      · cases h1
      · exact e ⟨x, y, w, h1⟩
      · cases h1
  case orInv =>
    intro o
    by_cases ho' : o < s'.nOr
    case neg => exact .vacuous hl' ho'
    rcases m.or_cases ho' with ho | ⟨rfl, x, y, w, e⟩
    · have hO := h.orInv o
      obtain ⟨d0, tgt, dps⟩ := m.ors o ho
      have hT := (hl.F1 o ho).1
      have newO : ∀ z j, j.orObj = some o → Act.thenJ z j ∉ new := fun z j e hb => by
        rcases m.src _ hb with ⟨_, h1, _⟩ | ⟨_, _, _, _, h1⟩ | ⟨_, _, _, h1⟩
        · rw [h1] at e; cases e
        · rw [e] at h1; cases h1; exact Nat.lt_irrefl _ ho
        · cases j <;> cases e <;> cases h1
      have oldThen : ∀ {z j}, j.orObj = some o → InTodos s' (.thenJ z j) → InTodos s (.thenJ z j) :=
        fun e hp => (m.td.sub hp).resolve_left (newO _ _ e)
      have cntThen : ∀ z j, j.orObj = some o → cnt s' (.thenJ z j) + (if hd = some (.thenJ z j) then 1 else 0)
          = cnt s (.thenJ z j) := fun z j e => by
        have := m.td.cnt (.thenJ z j); rwa [List.count_eq_zero.mpr (newO z j e)] at this
      have deps_eq : ¬ InTodos s (.run (.orCleanup o)) → (s'.ors o).deps = (s.ors o).deps :=
        fun hn => dps.resolve_right fun e => hn (m.td.head e.2)
      -- the registration of the cleanup is pending at most once, so once it has run it is pending no more
      have ranCl : InTodos s' (.thenJ (s.ors o).target (.orCleanup o)) →
          hd ≠ some (.thenJ (s.ors o).target (.orCleanup o)) := fun hp e => by
        have h1 := cntThen (s.ors o).target (.orCleanup o) rfl
        have h2 := hO.cleanupOnce (s.ors o).target
        have h3 := cnt_pos.mpr hp
        rw [if_pos e] at h1; omega
      have clKeep : Job.orCleanup o ∈ (s.sigs (s.ors o).target).jobs →
          Job.orCleanup o ∈ (s'.sigs (s.ors o).target).jobs ∧ (s'.sigs (s.ors o).target).go = false
          ∨ InTodos s' (.run (.orCleanup o)) := fun hj => by
        rcases m.jkeep _ _ hj with h1 | ⟨h1, _⟩ | h1
        · exact .inl ⟨h1, untriggered h1⟩
        · exact .inr (m.td.intro h1)
        · obtain ⟨_, _, e⟩ := hl.B4 _ _ (m.td.head h1); cases e
      have clReg : InTodos s (.thenJ (s.ors o).target (.orCleanup o)) → InTodos s' (.thenJ (s.ors o).target (.orCleanup o)) ∨
          Job.orCleanup o ∈ (s'.sigs (s.ors o).target).jobs ∧ (s'.sigs (s.ors o).target).go = false
          ∨ InTodos s' (.run (.orCleanup o)) := fun hp =>
        (m.then_cases hp).imp id fun h => h.elim (fun h => .inr (m.td.intro h.2)) fun h => .inl ⟨h.2, untriggered h.2⟩
      constructor
      case twoOpds => exact fun _ => d0 ▸ hO.twoOpds ho
      case hookAtOpd => intro z i hj; rw [d0]; exact (m.jsrc z _ hj).elim (hO.hookAtOpd z i) fun e => hO.thenAtOpd z i (m.td.head e)
      case thenAtOpd => exact fun z i hp => d0 ▸ hO.thenAtOpd z i (oldThen rfl hp)
      case hookOnce =>
        intro z i
        have h1 := cntThen z (.orHook o i) rfl
        have h2 := m.jcount z (.orHook o i)
        have h3 := hO.hookOnce z i
        omega
      case cleanupOnce => intro z; have := cntThen z (.orCleanup o) rfl; have := hO.cleanupOnce z; omega
      case whileWiring =>
        intro hp
        rw [tgt] at hp ⊢
        have hne := ranCl hp
        have hp0 := oldThen rfl hp
        obtain ⟨f1, f2, f3, f4⟩ := hO.whileWiring hp0
        refine ⟨by rw [d0, deps_eq f3]; exact f1, fun hj => (m.jsrc _ _ hj).elim f2 hne, fun hr => ?_, fun z i hr => ?_⟩
        · rcases m.td.sub hr with h1 | h1
          · rcases m.src _ h1 with ⟨z, _, _, hj, _⟩ | ⟨d, e, _⟩ | ⟨_, o', e, _, hd'⟩
            · exact f2 (hl.B3 z o hj ▸ hj)
            · exact hne (hl.B3t d o (m.td.head e) ▸ e)
            · cases e; rw [h.thenAlive _ _ hp0] at hd'; cases hd'
          · exact f3 h1
        · rcases m.td.sub hr with h1 | h1
          · obtain ⟨_, _, e, e'⟩ := m.src _ h1; cases e; exact f3 (m.td.head e')
          · exact f4 z i h1
      case hookCovered =>
        intro z i hj
        unfold Guard; rw [tgt, d0]
        rcases m.jsrc z _ hj with hj0 | e
        · rcases hO.hookCovered z i hj0 with ⟨g1, g2⟩ | ⟨g1, g2, g3, g4⟩ | ⟨g1, g2⟩ | g
          · rw [deps_eq (hO.whileWiring g2).2.2.1]
            rcases clReg g2 with h1 | h1 | h1
            · exact .inl ⟨g1, h1⟩
            · exact .inr (.inl ⟨g1, h1.1, live _ hT (h.thenAlive _ _ g2), h1.2⟩)
            · exact .inr (.inr (.inl ⟨g1, h1⟩))
          · have hnr : ¬ InTodos s (.run (.orCleanup o)) := fun hr => by
              rcases hl.Jr o hr with h1 | h1
              · rw [g4] at h1; cases h1
              · rw [g3] at h1; cases h1
            rw [deps_eq hnr]
            rcases clKeep g2 with h1 | h1
            · exact .inr (.inl ⟨g1, h1.1, live _ hT g3, h1.2⟩)
            · exact .inr (.inr (.inl ⟨g1, h1⟩))
          · by_cases e : hd = some (.run (.orCleanup o))
            · have hb := hO.hookAtOpd z i hj0
              rw [← g1] at hb
              refine .inr (.inr (.inr (m.td.intro ?_)))
              rw [m.ran e]
              exact List.mem_map.mpr ⟨(z, i), List.mk_mem_zipIdx_iff_getElem?.mpr hb, rfl⟩
            · rw [dps.resolve_right fun e' => e e'.2]
              exact .inr (.inr (.inl ⟨g1, m.td.keep g2 e⟩))
          · by_cases e : hd = some (.removeJ z (.orHook o i))
            · -- the hook was there once, and has just been removed
              exfalso
              have h1 := hO.hookOnce z i
              cases hg : (s.sigs z).go with
              | true => rw [h.goNoJobs z hg] at hj0; cases hj0
              | false =>
                have h2 := List.count_pos_iff.mpr hj
                rw [m.ran e hg, List.count_erase_self] at h2
                omega
            · exact .inr (.inr (.inr (m.td.keep g e)))
        · -- the hook that has just been registered: the registration of the cleanup follows in the same list
          obtain ⟨rest, hs, _⟩ := m.td.ex
          have hord := h.cleanupFollows t m.td.ht
          rw [hs, e] at hord
          have hm := hord [] rest z o i rfl
          have p : InTodos s (.thenJ (s.ors o).target (.orCleanup o)) := ⟨t, m.td.ht, by rw [hs]; exact List.mem_append_right _ hm⟩
          have f := hO.whileWiring p
          exact .inl ⟨deps_eq f.2.2.1 ▸ f.1, m.td.keep p fun e' => nomatch e.symm.trans e'⟩
      case owned =>
        intro _ hal hg
        rw [tgt] at hal hg ⊢
        rw [m.alive _ hT] at hal
        have nr : ¬ InTodos s' (.run (.orCleanup o)) := fun hr => by
          rcases hl'.Jr o hr with h1 | h1
          · rw [tgt, hg] at h1; cases h1
          · rw [tgt, m.alive _ hT, hal] at h1; cases h1
        rcases hO.owned ho hal (m.ext.go_back hT hg) with h1 | h1
        · exact .inl ((clKeep h1).resolve_right nr).1
        · rcases clReg h1 with h2 | h2 | h2
          · exact .inr h2
          · exact .inl h2.1
          · exact absurd h2 nr
    · -- the OrSignal that this move makes: nothing mentioned it before, the four new actions do, once each
      obtain ⟨_, e2, e3, ed, e4, e5⟩ := m.ran e
      have noJob : ∀ z j, j.orObj = some s.nOr → j ∉ (s'.sigs z).jobs := fun z j e' hj =>
        (m.jsrc z j hj).elim (fun h1 => Nat.lt_irrefl _ (hl.M3o z j _ h1 e')) fun h1 => by rw [e] at h1; cases h1
      have inNew : ∀ b j, b.job = some j → j.orObj = some s.nOr → InTodos s' b → b ∈ new := fun b j e1 e' hp =>
        (m.td.sub hp).resolve_right fun hb => Nat.lt_irrefl _ (hl.M2o b j _ hb e1 e')
      have once : ∀ b j, b.job = some j → j.orObj = some s.nOr → cnt s' b ≤ 1 := fun b j e1 e' => by
        have h1 := m.td.cnt b
        rw [if_neg (fun eb => by rw [e] at eb; cases eb; cases e1),
          cnt_zero.mpr fun hb => Nat.lt_irrefl _ (hl.M2o b j _ hb e1 e'), e5] at h1
        have : [Act.thenJ x (.orHook s.nOr 0), .thenJ y (.orHook s.nOr 1), .thenJ s.nSig (.orCleanup s.nOr), .ret s.nSig w].count b ≤ 1 :=
          List.nodup_iff_count.mp (by simp) b
        omega
      constructor
      case twoOpds => exact fun _ => e3 ▸ ⟨x, y, rfl⟩
      case hookAtOpd | hookCovered => exact fun z i hj => absurd hj (noJob z _ rfl)
      case hookOnce => intro z i; rw [List.count_eq_zero.mpr (noJob z _ rfl), Nat.add_zero]; exact once _ _ rfl rfl
      case cleanupOnce => exact fun z => once _ _ rfl rfl
      case owned => exact fun _ _ _ => .inr (m.td.intro (by rw [e4, e5]; simp))
      case thenAtOpd =>
        intro z i hp
        have h1 := inNew _ _ rfl rfl hp
        rw [e5] at h1
        simp only [List.mem_cons, List.mem_nil_iff, or_false, reduceCtorEq] at h1
        rw [e3]
        rcases h1 with h1 | h1 | h1 <;> cases h1 <;> rfl
      case whileWiring =>
        refine fun _ => ⟨ed.trans e3.symm, noJob _ _ rfl, fun hr => ?_, fun z i hr => ?_⟩
        · have := inNew _ _ rfl rfl hr; rw [e5] at this; simp at this
        · have := inNew _ _ rfl rfl hr; rw [e5] at this; simp at this

/-- `z` is freed and, if it is the output of an OrSignal, the cleanup is queued (`hpre`): at once, because in between a hook of
that OrSignal has no `Guard` -/
theorem invH_dies {s s' : State} {t z : Nat} {pre : List Act} (hl : InvL s) (h : InvH s) (C : Collectable s z) (c : TodoChg s s' t none pre)
    (e1 : s'.sigs = (s.die z).sigs) (e3 : s'.ors = s.ors) (e4 : s'.nOr = s.nOr)
    (hpre : ∀ b, b ∈ pre ↔ ∃ o, (s.sigs z).built = .orOut o ∧ b = .run (.orCleanup o)) : InvH s' := by
  have other : ∀ w, w ≠ z → s'.sigs w = s.sigs w := fun w e => by rw [e1, die_other e]
  have jobs_sub : ∀ w j, j ∈ (s'.sigs w).jobs → w ≠ z ∧ j ∈ (s.sigs w).jobs := fun w j hj => die_jobs (e1 ▸ hj)
  have count_le : ∀ w j, (s'.sigs w).jobs.count j ≤ (s.sigs w).jobs.count j := fun w j => by
    by_cases e : w = z
    · rw [e, e1, die_self]; exact Nat.zero_le _
    · rw [other w e]; exact Nat.le_refl _
  -- only cleanups are queued
  have same : ∀ b, (∀ j, b ≠ .run j) → cnt s' b = cnt s b ∧ (InTodos s' b → InTodos s b) := fun b hb => by
    have hn : b ∉ pre := fun hm => by obtain ⟨o, _, e⟩ := (hpre b).mp hm; exact hb _ e
    have := c.cnt b
    rw [if_neg nofun, List.count_eq_zero.mpr hn] at this
    exact ⟨this, fun hp => (c.sub hp).resolve_left hn⟩
  have ne_z : ∀ b w, InTodos s b → w ∈ b.sigs → w ≠ z := fun b w hb hw e => C.noTodo b hb (e ▸ hw)
  constructor
  case goNoJobs =>
    refine fun w hw => List.eq_nil_iff_forall_not_mem.mpr fun j hj => ?_
    obtain ⟨_, hj⟩ := jobs_sub w j hj
    rw [e1, die_go] at hw; rw [h.goNoJobs w hw] at hj; cases hj
  case deadNoJobs =>
    refine fun w hw => List.eq_nil_iff_forall_not_mem.mpr fun j hj => ?_
    obtain ⟨e, hj⟩ := jobs_sub w j hj
    rw [other w e] at hw; rw [h.deadNoJobs w hw] at hj; cases hj
  case thenAlive =>
    intro d j hp
    have hp := (same _ (by nofun)).2 hp
    rw [other d (ne_z _ d hp (.head _))]; exact h.thenAlive d j hp
  case cleanupFollows =>
    refine c.hb (e3 ▸ h.cleanupFollows) fun rest hr => HB.append (fun b hb z' o i e => ?_) hr
    obtain ⟨_, _, e'⟩ := (hpre b).mp hb; rw [e] at e'; cases e'
  case orInv =>
    intro o
    have hO := h.orInv o
    constructor
    case twoOpds => exact fun hlt => e3 ▸ hO.twoOpds (e4 ▸ hlt)
    case hookAtOpd => exact fun w i hj => e3 ▸ hO.hookAtOpd w i (jobs_sub w _ hj).2
    case thenAtOpd => exact fun w i hp => e3 ▸ hO.thenAtOpd w i ((same _ (by nofun)).2 hp)
    case hookOnce => intro w i; rw [(same _ (by nofun)).1]; exact Nat.le_trans (Nat.add_le_add_left (count_le w _) _) (hO.hookOnce w i)
    case cleanupOnce => intro w; rw [(same _ (by nofun)).1]; exact hO.cleanupOnce w
    case whileWiring =>
      intro hp
      rw [e3] at hp ⊢
      have hp := (same _ (by nofun)).2 hp
      obtain ⟨f1, f2, f3, f4⟩ := hO.whileWiring hp
      refine ⟨f1, fun hj => f2 (jobs_sub _ _ hj).2, fun hr => ?_, fun w i hr => f4 w i ((same _ (by nofun)).2 hr)⟩
      rcases c.sub hr with h1 | h1
      · obtain ⟨o', hb, e⟩ := (hpre _).mp h1; cases e
        exact ne_z _ _ hp (.head _) (hl.F3 z o hb).2.symm
      · exact f3 h1
    case hookCovered =>
      intro w i hj
      obtain ⟨hw, hj⟩ := jobs_sub w _ hj
      unfold Guard; rw [e3]
      rcases hO.hookCovered w i hj with ⟨g1, g2⟩ | ⟨g1, g2, g3, g4⟩ | ⟨g1, g2⟩ | g
      · exact .inl ⟨g1, c.keep g2 nofun⟩
      · by_cases e : (s.ors o).target = z
        · -- the composite dies: its weak reference queues the cleanup
          exact .inr (.inr (.inl ⟨g1, c.intro ((hpre _).mpr ⟨o, e ▸ (hl.F1 o (hl.M3o w _ o hj rfl)).2, rfl⟩)⟩))
        · rw [other _ e]; exact .inr (.inl ⟨g1, g2, g3, g4⟩)
      · exact .inr (.inr (.inl ⟨g1, c.keep g2 nofun⟩))
      · exact .inr (.inr (.inr (c.keep g nofun)))
    case owned =>
      intro hlt hal hg
      rw [e3] at hal hg ⊢
      have e : (s.ors o).target ≠ z := fun e => by rw [e, e1, die_self] at hal; cases hal
      rw [other _ e] at hal hg ⊢
      exact (hO.owned (e4 ▸ hlt) hal hg).imp id (c.keep · nofun)

theorem reach_invH {s : State} (h : sys.Reach s) : InvH s := by
  refine Sys.Reach.invariant' sys (P := InvH) (fun s hi => by cases hi; exact invH_init) (fun s s' hr hi he => ?_)
    (fun s s' t l hr hi hs => ?_) h
  · have hl := reach_invL hr
    rcases move_of_env hl.heap_end he with ⟨_, _, m⟩ | ⟨_, _, hc⟩
    · exact invH_move hl hi m
    · obtain ⟨C, ⟨rfl, hn⟩ | ⟨o, hb, ht, rfl⟩⟩ := collect_spec hc
      · exact invH_dies (pre := []) hl hi C (.same rfl) rfl rfl rfl fun b => ⟨nofun, fun ⟨o, hb, _⟩ => absurd hb (hn o)⟩
      · exact invH_dies (pre := [.run (.orCleanup o)]) hl hi C (.push ht rfl) rfl rfl rfl fun b => by rw [hb]; simp
  · have hl := reach_invL hr
    obtain ⟨_, _, m⟩ := move_of_step hl.heap_end hs
    exact invH_move hl hi m

end MoThreads.Composite
