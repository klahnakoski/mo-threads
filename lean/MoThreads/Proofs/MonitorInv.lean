/-
  Inductive invariant of M3 (Monitor).  What is proved by induction is a proof outline in the manner of Owicki and Gries,
  `Outline`: `Sh`, an invariant of the shared variables alone, and per thread `At s t p`, an assertion on the shared
  variables attached to the pc `p` at which `t` stands; the flat `Inv` follows from it (`Inv.of`).
-/
import MoThreads.Model.Monitor
namespace MoThreads.Monitor

/-- pcs at which the thread holds `Lock.lock` -/
def PC.holdsM : PC → Bool
  | .inside _ | .x0 | .x1 | .x2 _ | .x3 => true
  | .a0 _ _ _ | .a1 _ _ _ | .a2 _ _ _ _ | .a3 _ _ _ | .a4 _ _ _ | .a5 _ _ _ | .a6 _ _ _ => true
  | _ => false

/-- the thread's own waiter while inside wait() -/
def PC.own : PC → Option Nat
  | .a0 w _ _ | .a1 w _ _ | .a2 w _ _ _ | .a3 w _ _ | .a4 w _ _ | .a5 w _ _ | .parked w _ _ | .a6 w _ _ => some w
  | _ => none

/-- own waiter has been put on the list and not yet removed by the owner -/
def PC.listedOwn : PC → Option Nat
  | .a5 w _ _ | .parked w _ _ | .a6 w _ _ => some w
  | _ => none

/-- released the lock inside wait() (or about to) and not yet re-acquired -/
def PC.sleepOn : PC → Option Nat
  | .a5 w _ _ | .parked w _ _ => some w
  | _ => none

/-- own waiter allocated but not yet put on the list -/
def PC.preList : PC → Option Nat
  | .a0 w _ _ | .a1 w _ _ | .a2 w _ _ _ | .a3 w _ _ | .a4 w _ _ => some w
  | _ => none

def PC.parkedOn : PC → Option Nat
  | .parked w _ _ => some w
  | _ => none

/-- the waiter this thread has popped and is about to fire -/
def PC.hand : PC → Option Nat
  | .x2 w => some w
  | .a2 _ _ _ o => some o
  | _ => none

/-- declared condition while between the call of wait() and the release inside it -/
def PC.waitCond : PC → Option Cond
  | .a0 _ c _ | .a1 _ c _ | .a2 _ c _ _ | .a3 _ c _ | .a4 _ c _ | .a5 _ c _ => some c
  | _ => none

theorem pop_split {l : List Nat} {w : Nat} (h : l.getLast? = some w) : l = l.dropLast ++ [w] := by
  obtain ⟨ys, rfl⟩ := List.getLast?_eq_some_iff.mp h
  rw [List.dropLast_concat]

theorem PC.hand_holdsM (p : PC) (w : Nat) (h : p.hand = some w) : p.holdsM = true := by
  cases p <;> simp_all [PC.hand, PC.holdsM]

theorem PC.waitCond_holdsM (p : PC) (c : Cond) (h : p.waitCond = some c) : p.holdsM = true := by
  cases p <;> simp_all [PC.waitCond, PC.holdsM]

def AllCondsFalse (s : State) : Prop :=
  ∀ t w c tl, s.pc t = .parked w c tl → w ∈ s.waiting → c.holds s.σ = false

structure Inv (s : State) : Prop where
  mutex  : ∀ t, (s.pc t).holdsM = true ↔ s.mutex = some t
  own    : ∀ t w, (s.pc t).own = some w → s.owner w = t ∧ w < s.nextW
  listed : ∀ w, w ∈ s.waiting → (s.pc (s.owner w)).listedOwn = some w
  nodupW : s.waiting.Nodup
  handPc : ∀ t w, (s.pc t).hand = some w → s.hand = some w
  handM  : ∀ w, s.hand = some w → ∃ t, s.mutex = some t ∧ (s.pc t).hand = some w
  handW  : ∀ w, s.hand = some w → w ∉ s.waiting ∧ s.fired w = false ∧ (s.pc (s.owner w)).parkedOn = some w ∧ w ∉ s.hot
  hotI   : ∀ w, w ∈ s.hot → s.fired w = true ∧ (s.pc (s.owner w)).parkedOn = some w
  nodupH : s.hot.Nodup
  firedW : ∀ w, s.fired w = true → w ∉ s.waiting
  noLost : ∀ t w, (s.pc t).sleepOn = some w → w ∈ s.waiting ∨ w ∈ s.hot ∨ s.hand = some w
  K      : s.waiting ≠ [] → s.mutex ≠ none ∨ s.hot ≠ [] ∨ AllCondsFalse s
  X      : ∀ t, s.pc t = .x3 → s.waiting = [] ∨ s.hot ≠ []
  A5     : ∀ t w c tl, s.pc t = .a5 w c tl → s.hot ≠ [] ∨ s.waiting = [w]
  cFalse : ∀ t c, (s.pc t).waitCond = some c → c.holds s.σ = false
  A6     : ∀ t w c tl, s.pc t = .a6 w c tl → s.fired w = true ∨ tillOn s tl = true
  fresh  : ∀ w, s.nextW ≤ w → w ∉ s.waiting ∧ w ∉ s.hot ∧ s.hand ≠ some w ∧ s.fired w = false
  x1ne   : ∀ t, s.pc t = .x1 → s.waiting ≠ []
  a1ne   : ∀ t w c tl, s.pc t = .a1 w c tl → s.waiting ≠ []
  preL   : ∀ t w, (s.pc t).preList = some w → s.fired w = false ∧ w ∉ s.waiting ∧ w ∉ s.hot ∧ s.hand ≠ some w
  A3     : ∀ t w c tl, s.pc t = .a3 w c tl → s.hot ≠ []
  A4     : ∀ t w c tl, s.pc t = .a4 w c tl → s.waiting = []

macro "step_at" hp:ident hs:ident : tactic => `(tactic| (
  unfold step at $hs:ident
  rw [$hp:ident] at $hs:ident
  simp only [] at $hs:ident))

/-- the waiters no signal has reached yet: listed, or popped and about to be fired -/
abbrev State.cold (s : State) : List Nat := s.waiting ++ s.hand.toList

/-- The waiters through which a signal can still reach their owner, in the order in which a waiter passes through them:
listed, popped, fired and not yet consumed.  `pop()` and `go()` move a waiter along this list and leave the list as it is. -/
abbrev State.track (s : State) : List Nat := s.cold ++ s.hot

theorem mem_track {s : State} {w : Nat} : w ∈ s.track ↔ w ∈ s.waiting ∨ w ∈ s.hand.toList ++ s.hot := by
  rw [State.track, State.cold, List.append_assoc, List.mem_append]

theorem not_mem_track {s : State} {w : Nat} : w ∉ s.track ↔ w ∉ s.waiting ∧ w ∉ s.hot ∧ s.hand ≠ some w := by
  simp [and_comm]

/-- what a thread at `p` has tested or written since it took the lock (`Inv.X`, `A3`–`A6`, `x1ne`, `a1ne` in one table),
and at `parked` its share of `Inv.K` -/
def PC.spec (s : State) : PC → Prop
  | .x1 | .a1 .. => s.waiting ≠ []
  | .x3 => s.waiting = [] ∨ s.hot ≠ []
  | .a3 .. => s.hot ≠ []
  | .a4 .. => s.waiting = []
  | .a5 w _ _ => s.hot ≠ [] ∨ s.waiting = [w]
  | .parked w c _ => w ∈ s.waiting → s.mutex = none → s.hot = [] → c.holds s.σ = false
  | .a6 w _ tl => s.fired w = true ∨ tillOn s tl = true
  | _ => True

structure Sh (s : State) : Prop where
  nodup : s.track.Nodup
  cold  : ∀ w, w ∈ s.cold → s.fired w = false
  hotF  : ∀ w, w ∈ s.hot → s.fired w = true
  handN : s.mutex = none → s.hand = none
  fresh : ∀ w, w ∈ s.track ∨ s.fired w = true → w < s.nextW

/-- Every field reads `p` through a classification, so that `{ a with … }` re-types an assertion for another pc and state
and asks only for the fields that differ after unfolding.  `listed`, `parked`: `Inv.listed`, `handW`, `hotI`, read from
the side of the waiter's owner. -/
structure At (s : State) (t : Nat) (p : PC) : Prop where
  mutex  : p.holdsM = true ↔ s.mutex = some t
  own    : ∀ w, p.own = some w → s.owner w = t ∧ w < s.nextW
  hand   : s.mutex = some t → s.hand = p.hand
  listed : ∀ w, s.owner w = t → w ∈ s.waiting → p.listedOwn = some w
  parked : ∀ w, s.owner w = t → w ∈ s.hand.toList ++ s.hot → p.parkedOn = some w
  noLost : ∀ w, p.sleepOn = some w → w ∈ s.track
  cFalse : ∀ c, p.waitCond = some c → c.holds s.σ = false
  preL   : ∀ w, p.preList = some w → s.fired w = false ∧ w ∉ s.track
  spec   : p.spec s

structure Outline (s : State) : Prop where
  sh : Sh s
  thread : ∀ t, At s t (s.pc t)

theorem Inv.of {s : State} (h : Outline s) : Inv s :=
  have g := h.sh
  have a := h.thread
  have ⟨ndc, ndh, dch⟩ := List.nodup_append.mp g.nodup
  have ⟨ndw, _, dwh⟩ := List.nodup_append.mp ndc
  have inH : ∀ {w}, s.hand = some w → w ∈ s.hand.toList := Option.mem_toList.mpr
  { mutex t := (a t).mutex
    own t := (a t).own
    listed w hw := (a _).listed w rfl hw
    nodupW := ndw
    handPc t w hw := by
      have hm := (a t).mutex.mp (PC.hand_holdsM _ _ hw)
      rw [(a t).hand hm, hw]
    handM w hw := by
      cases hm : s.mutex with
      | none => rw [g.handN hm] at hw; cases hw
      | some t => exact ⟨t, rfl, by rw [← (a t).hand hm, hw]⟩
    handW w hw := ⟨fun hc => dwh w hc w (inH hw) rfl, g.cold w (List.mem_append_right _ (inH hw)),
      (a _).parked w rfl (List.mem_append_left _ (inH hw)), fun hc => dch w (List.mem_append_right _ (inH hw)) w hc rfl⟩
    hotI w hw := ⟨g.hotF w hw, (a _).parked w rfl (List.mem_append_right _ hw)⟩
    nodupH := ndh
    firedW w hf hw := by rw [g.cold w (List.mem_append_left _ hw)] at hf; cases hf
    noLost t w e := by simpa [or_comm] using (a t).noLost w e
    K _ := by
      by_cases hm : s.mutex = none
      · by_cases hh : s.hot = []
        · exact .inr (.inr fun t w c tl hp hw => (hp ▸ a t).spec hw hm hh)
        · exact .inr (.inl hh)
      · exact .inl hm
    X t hp := (hp ▸ a t).spec
    A5 t w c tl hp := (hp ▸ a t).spec
    cFalse t := (a t).cFalse
    A6 t w c tl hp := (hp ▸ a t).spec
    fresh w hle :=
      have ⟨f1, f2, f3⟩ := not_mem_track.mp fun ht => Nat.not_lt.mpr hle (g.fresh w (.inl ht))
      ⟨f1, f2, f3, Bool.eq_false_iff.mpr fun hf => Nat.not_lt.mpr hle (g.fresh w (.inr hf))⟩
    x1ne t hp := (hp ▸ a t).spec
    a1ne t w c tl hp := (hp ▸ a t).spec
    preL t w e := ((a t).preL w e).imp_right not_mem_track.mp
    A3 t w c tl hp := (hp ▸ a t).spec
    A4 t w c tl hp := (hp ▸ a t).spec }

/-- `Sh` and `At` do not read `s.pc`, but their types mention `s`: hence the repacking `{ g with }`. -/
theorem Outline.setPc {s : State} {t : Nat} {p' : PC} (g : Sh s) (a : At s t p') (o : ∀ u, u ≠ t → At s u (s.pc u)) :
    Outline (s.setPc t p') :=
  ⟨{ g with }, fun u => by
    show At _ u (if u = t then p' else s.pc u)
    by_cases hu : u = t
    · rw [if_pos hu, hu]; exact { a with }
    · rw [if_neg hu]; exact { o u hu with }⟩

end MoThreads.Monitor
