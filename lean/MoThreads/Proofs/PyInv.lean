/-
  Inductive invariant of M10 (Model/PyProxy.lean).  What a caller knows is split in two.  `Own` reads only the caller's own
  pc and the answer the worker will give it, so a step of anybody else leaves it as it is.  `Slot` is what the one caller
  holding the lock knows of the shared slot (`done`/`response`/`error`) and of the two pipes; it reads no caller's pc and no
  `want`.  The step lemmas `inv_caller` and `inv_pipe` conclude `Inv` of a record update with variables for the fields the
  step writes, with which the result of each concrete step unifies.
-/
import MoThreads.Model.PyProxy
namespace MoThreads.PyProxy

def CPC.inCrit : CPC → Bool
  | .idle _ | .c0 _ => false
  | _ => true

def PipeEmpty (s : State) : Prop := s.inQ = [] ∧ s.wpc = .w0 ∧ s.outQ = [] ∧ s.rpc = .r0

def Clean (s : State) : Prop := s.fired = s.fired ∧ s.error = false ∧ s.response = none

/-- slot contents `self.error`, `self.response` that hold the answer `w` -/
def Answered (e : Bool) (r : Option Nat) : Reply → Prop
  | .out v => e = false ∧ r = v
  | .err => e = true
  | .log => False

def Good : Reply → Ret → Prop
  | .out v, r => r = .value v
  | .err, r => r = .raised
  | .log, _ => False

def Fresh (s : State) (k : Nat) : Prop := s.done = .sig k ∧ k < s.nextSig ∧ s.fired k = false ∧ PipeEmpty s

def Req.lines (q : Req) : List Reply := if q.withLog then [.log, q.ans] else [q.ans]

/-- the reply lines the worker side still owes the reader, oldest first: those in stdout, those being written, those of
the queued requests.  The worker's steps move lines along and leave this list as it is (`stepW_owed`). -/
def owed (oq : List Reply) (wp : WPC) (iq : List Req) : List Reply :=
  oq ++ (match wp with | .w0 => [] | .w1 q => q.lines) ++ iq.flatMap Req.lines

theorem owed_cons (x : Reply) (oq : List Reply) (wp : WPC) (iq : List Req) : owed (x :: oq) wp iq = x :: owed oq wp iq := by
  simp [owed]

theorem Req.lines_ne_nil (q : Req) : q.lines ≠ [] := by unfold Req.lines; split <;> simp

theorem owed_eq_nil {oq : List Reply} {wp : WPC} {iq : List Req} : owed oq wp iq = [] ↔ iq = [] ∧ wp = .w0 ∧ oq = [] := by
  cases wp <;> cases iq <;> simp [owed, Req.lines_ne_nil]

/-- Where the answer `w` is, read off the reader's pc: still owed (after at most one log line) or delivered, in the
reader's hands, or in the slot with the signal yet to fire.  `o`: the lines owed, `f`: the caller's signal has fired,
`e`, `r`: the slot. -/
def Stage (o : List Reply) (f e : Bool) (r : Option Nat) (w : Reply) : RPC → Prop
  | .r0 => ((o = [w] ∨ o = [.log, w]) ∧ f = false ∧ e = false ∧ r = none) ∨ (o = [] ∧ f = true ∧ Answered e r w)
  | .r1 v => w = .out v ∧ o = [] ∧ f = false ∧ e = false ∧ r = none
  | .e1 => w = .err ∧ o = [] ∧ f = false ∧ e = false ∧ r = none
  | .r2 => o = [] ∧ f = false ∧ Answered e r w

/-- between `stdin.add` and the return of `done.wait()` -/
def Phase (s : State) (k : Nat) (w : Reply) : Prop :=
  s.done = .sig k ∧ k < s.nextSig ∧ w ≠ .log ∧ Stage (owed s.outQ s.wpc s.inQ) (s.fired k) s.error s.response w s.rpc

@[reducible] def Own (t : Nat) (w : Reply) : CPC → Prop
  | .idle r => r = .none ∨ Good w r
  | .c0 q | .c1 q | .c2 q _ | .c3 q _ | .c4 q _ => q.owner = t ∧ q.ans = w ∧ w ≠ .log
  | .c6b => w = .err
  | .c8 r | .c9 r | .c10 r | .c11 r => Good w r
  | _ => True

@[reducible] def Slot (s : State) (w : Reply) : CPC → Prop
  | .idle _ | .c0 _ => False
  | .c2 _ k => Fresh s k
  | .c3 _ k => Fresh s k ∧ s.response = none
  | .c4 _ k => Fresh s k ∧ s.response = none ∧ s.error = false
  | .c5 k => Phase s k w
  | .c6 => PipeEmpty s ∧ Answered s.error s.response w
  | .c7 => PipeEmpty s ∧ w = .out s.response
  | _ => PipeEmpty s

structure Inv (s : State) : Prop where
  own : ∀ u, Own u (s.want u) (s.cpc u)
  mutex : ∀ u, (s.cpc u).inCrit = true → s.lock = some u
  unlockedEmpty : s.lock = none → PipeEmpty s
  slot : ∀ t, s.lock = some t → Slot s (s.want t) (s.cpc t)
  futureUnfired : ∀ j, s.nextSig ≤ j → s.fired j = false
  nonCallerIdle : ∀ u, u < 2 → s.cpc u = .idle .none

theorem inv_init : Inv init := by
  constructor <;> simp [init, PipeEmpty, CPC.inCrit]

theorem inv_caller {s : State} (h : Inv s) {t : Nat} (ht : 2 ≤ t) (hl : s.lock = none ∨ s.lock = some t) {p' : CPC}
    {lk d r e n iq} (hlk : lk = if p'.inCrit then some t else none) (hF : ∀ j, n ≤ j → s.fired j = false) (hO : Own t (s.want t) p')
    (hS : p'.inCrit = true → Slot { s with done := d, response := r, error := e, nextSig := n, inQ := iq } (s.want t) p')
    (hE : p'.inCrit = false → PipeEmpty { s with inQ := iq }) :
    Inv ({ s with lock := lk, done := d, response := r, error := e, nextSig := n, inQ := iq }.setC t p') where
  own u := by
    show Own u (s.want u) (if u = t then p' else s.cpc u)
    split
    · next hu => exact hu ▸ hO
    · exact h.own u
  mutex u hu := by
    change (if u = t then p' else s.cpc u).inCrit = true at hu
    split at hu
    · next hut => rw [hlk, hu, hut]; rfl
    · next hut =>
      have := h.mutex u hu
      rcases hl with hl | hl <;> rw [hl] at this <;> cases this
      exact absurd rfl hut
  unlockedEmpty hn := by
    cases hc : p'.inCrit with
    | true => rw [hlk, hc] at hn; cases hn
    | false => exact hE hc
  slot u hu := by
    show Slot _ (s.want u) (if u = t then p' else s.cpc u)
    cases hc : p'.inCrit with
    | true => rw [hlk, hc] at hu; cases hu; rw [if_pos rfl]; exact hS hc
    | false => rw [hlk, hc] at hu; cases hu
  futureUnfired := hF
  nonCallerIdle u hu := by
    show (if u = t then p' else s.cpc u) = _
    rw [if_neg (by omega)]; exact h.nonCallerIdle u hu

theorem inv_holder {s : State} (h : Inv s) {t : Nat} {p : CPC} (hp : s.cpc t = p) (hc : p.inCrit = true) :
    s.lock = some t ∧ Slot s (s.want t) p := by
  have hl := h.mutex t (hp ▸ hc)
  exact ⟨hl, hp ▸ h.slot t hl⟩

theorem inv_lock {s : State} (h : Inv s) {u : Nat} (hl : s.lock = some u) : (s.cpc u).inCrit = true := by
  have hS := h.slot u hl
  cases hp : s.cpc u with (rw [hp] at hS)
  | idle _ | c0 _ => exact hS.elim
  | _ => rfl

theorem inv_inside {s : State} (h : Inv s) {t : Nat} (ht : 2 ≤ t) {p p' : CPC} (hp : s.cpc t = p) (hc : p.inCrit = true)
    (hc' : p'.inCrit = true) {d r e n iq} (hF : ∀ j, n ≤ j → s.fired j = false) (hO : Own t (s.want t) p')
    (hS : Slot s (s.want t) p → Slot { s with done := d, response := r, error := e, nextSig := n, inQ := iq } (s.want t) p') :
    Inv ({ s with done := d, response := r, error := e, nextSig := n, inQ := iq }.setC t p') :=
  have ⟨hl, hS'⟩ := inv_holder h hp hc
  inv_caller h ht (.inr hl) (by rw [hc']; exact hl) hF hO (fun _ => hS hS') (fun h0 => by rw [hc'] at h0; cases h0)

theorem inv_stepC {s s' : State} {t : Nat} {l : Label} (h : Inv s) (ht : 2 ≤ t) (hs : stepC s t = some (s', l)) : Inv s' := by
  have hO := h.own t
  unfold stepC at hs
  cases hp : s.cpc t with (rw [hp] at hs hO; simp only at hs)
  | idle r => cases hs
  | c0 q =>
    split at hs <;> cases hs
    next hn => exact inv_caller h ht (.inl hn) rfl h.futureUnfired hO (fun _ => h.unlockedEmpty hn) nofun
  | c1 q =>
    cases hs
    exact inv_inside h ht hp rfl rfl (fun j hj => h.futureUnfired j (by omega)) hO
      (fun hS => ⟨rfl, by simp, h.futureUnfired _ (Nat.le_refl _), hS⟩)
  | c2 q k => cases hs; exact inv_inside h ht hp rfl rfl h.futureUnfired hO (fun hS => ⟨hS, rfl⟩)
  | c3 q k => cases hs; exact inv_inside h ht hp rfl rfl h.futureUnfired hO (fun hS => ⟨hS.1, hS.2, rfl⟩)
  | c4 q k =>
    cases hs
    refine inv_inside h ht hp rfl rfl h.futureUnfired trivial (fun ⟨⟨hd, hk, hf, h1, h2, h3, h4⟩, hr, he⟩ => ⟨hd, hk, hO.2.2, ?_⟩)
    simp only [Stage, h1, h2, h3, h4, hf, he, hr]
    cases hwl : q.withLog <;> simp [owed, Req.lines, hwl, hO.2.1]
  | c5 k =>
    split at hs <;> cases hs
    next hf =>
      -- the signal has fired: of the stages only the last is left
      refine inv_inside h ht hp rfl rfl h.futureUnfired trivial (fun ⟨_, _, _, hS⟩ => ?_)
      cases hr : s.rpc <;> simp [Stage, hr, hf, owed_eq_nil] at hS
      exact ⟨⟨hS.1.1, hS.1.2.1, hS.1.2.2, rfl⟩, hS.2⟩
  | c6 =>
    cases hs
    -- the slot holds the answer: `error` set means the answer is `err`, otherwise it is `out response`
    have hA := (inv_holder h hp rfl).2.2
    cases he : s.error with
    | true => exact inv_inside h ht hp rfl rfl h.futureUnfired (by cases hw : s.want t <;> simp_all [Answered]) (fun hS => hS.1)
    | false => exact inv_inside h ht hp rfl rfl h.futureUnfired trivial (fun hS => ⟨hS.1, by cases hw : s.want t <;> simp_all [Answered]⟩)
  | c6b => cases hs; exact inv_inside h ht hp rfl rfl h.futureUnfired (by rw [hO]; rfl) id
  | c7 => cases hs; exact inv_inside h ht hp rfl rfl h.futureUnfired (by rw [(inv_holder h hp rfl).2.2]; rfl) (fun hS => hS.1)
  | c8 r | c9 r | c10 r => cases hs; exact inv_inside h ht hp rfl rfl h.futureUnfired hO id
  | c11 r =>
    cases hs
    obtain ⟨hl, hS⟩ := inv_holder h hp rfl
    exact inv_caller h ht (.inr hl) rfl h.futureUnfired (.inr hO) nofun (fun _ => hS)

theorem slot_cases {s : State} {w : Reply} {p : CPC} (h : Slot s w p) : PipeEmpty s ∨ ∃ k, p = .c5 k ∧ Phase s k w := by
  cases p <;> simp_all [Slot, Fresh]

/-- A reader or worker step happens only while the lock holder waits at `c5`, and touches nothing the other callers know. -/
theorem inv_pipe {s : State} (h : Inv s) (hb : ¬ PipeEmpty s) {f r e iq oq rp wp}
    (hF : ∀ j, f j = true → s.fired j = true ∨ s.done = .sig j)
    (hP : ∀ k w, s.done = .sig k → w ≠ .log → Stage (owed s.outQ s.wpc s.inQ) (s.fired k) s.error s.response w s.rpc →
      Stage (owed oq wp iq) (f k) e r w rp) :
    Inv { s with fired := f, response := r, error := e, inQ := iq, outQ := oq, rpc := rp, wpc := wp } := by
  obtain hl | ⟨t, hl⟩ := Option.eq_none_or_eq_some s.lock
  · exact absurd (h.unlockedEmpty hl) hb
  · obtain he | ⟨k, hp, hph⟩ := slot_cases (h.slot t hl)
    · exact absurd he hb
    · exact { h with
        unlockedEmpty := fun hn => nomatch hl.symm.trans hn
        slot := fun u hu => by
          cases hl.symm.trans hu; rw [hp]; exact ⟨hph.1, hph.2.1, hph.2.2.1, hP k _ hph.1 hph.2.2.1 hph.2.2.2⟩
        futureUnfired := fun j (hj : s.nextSig ≤ j) => show f j = false by
          cases hf : f j with
          | false => rfl
          | true =>
            obtain h1 | h1 := hF j hf
            · rw [h.futureUnfired j hj] at h1; cases h1
            · have := hph.1.symm.trans h1; cases this; have := hph.2.1; omega }

theorem stepW_owed {s s' : State} {l : Label} (hs : stepW s = some (s', l)) :
    ∃ iq oq wp, s' = { s with inQ := iq, outQ := oq, wpc := wp } ∧ owed oq wp iq = owed s.outQ s.wpc s.inQ := by
  unfold stepW at hs
  cases hw : s.wpc with (rw [hw] at hs; simp only at hs)
  | w0 => cases hi : s.inQ with (rw [hi] at hs)
    | nil => cases hs
    | cons q rest => cases hs; exact ⟨_, _, _, rfl, by simp [owed]⟩
  | w1 q => cases hs; exact ⟨_, _, _, rfl, by simp [owed, Req.lines]⟩

theorem stepW_none_of_empty {s : State} (h : PipeEmpty s) : stepW s = none := by
  simp [stepW, h.1, h.2.1]

theorem stepR_none_of_empty {s : State} (h : PipeEmpty s) : stepR s = none := by
  simp [stepR, h.2.2.1, h.2.2.2]

theorem inv_stepW {s s' : State} {l : Label} (h : Inv s) (hs : stepW s = some (s', l)) : Inv s' := by
  have hb : ¬ PipeEmpty s := fun he => by rw [stepW_none_of_empty he] at hs; cases hs
  obtain ⟨iq, oq, wp, rfl, ho⟩ := stepW_owed hs
  exact inv_pipe h hb (fun j hj => .inl hj) (fun k w _ _ hP => ho ▸ hP)

theorem inv_stepR {s s' : State} {l : Label} (h : Inv s) (hs : stepR s = some (s', l)) : Inv s' := by
  have hb : ¬ PipeEmpty s := fun he => by rw [stepR_none_of_empty he] at hs; cases hs
  unfold stepR at hs
  cases hr : s.rpc with (rw [hr] at hs; simp only at hs)
  | r0 => cases ho : s.outQ with (rw [ho] at hs)
    | nil => cases hs
    | cons x rest =>
      -- the oldest line owed leaves stdout: a log line is dropped (`o = [.log, w]` becomes `[w]`), an answer goes into the
      -- reader's hand (`o = [w]` at `r0` becomes `o = []` at `r1`/`e1`)
      cases x <;> cases hs <;> refine inv_pipe h hb (fun _ hj => .inl hj) (fun k w _ hw hP => ?_) <;>
        simp only [Stage, hr, ho, owed_cons] at hP ⊢ <;> simp_all [@eq_comm _ Reply.log]
  | r1 v | e1 =>
    cases hs; refine inv_pipe h hb (fun _ hj => .inl hj) (fun k w _ _ hP => ?_)
    simp only [Stage, hr] at hP ⊢; simp_all [Answered]
  | r2 =>
    -- `split`, not `cases s.done`: the latter rewrites `s.done` inside the record, and then `inv_pipe` does not unify
    split at hs <;> cases hs
    next hd => exact inv_pipe h hb (fun _ hj => .inl hj) (fun k w hk => by simp [hk] at hd)
    next k' hd =>
      refine inv_pipe h hb (fun j hj => ?_) (fun k w hk _ hP => ?_)
      · by_cases hjk : j = k' <;> simp_all
      · simp only [Stage, hr] at hP ⊢; simp_all

theorem inv_call {s s' : State} {t : Nat} {ans : Reply} {wl : Bool} (h : Inv s) (hc : call s t ans wl = some s') : Inv s' := by
  unfold call at hc
  split at hc
  · cases hc
  split at hc
  · cases hc
  split at hc <;> cases hc
  rename_i ht hne _ r hidle
  exact { h with
    own := fun u => by
      by_cases hut : u = t
      · subst hut; simp only [State.setC, ↓reduceIte]; exact ⟨rfl, rfl, hne⟩
      · simpa [State.setC, hut] using h.own u
    mutex := fun u hu => by
      by_cases hut : u = t
      · subst hut; simp [State.setC, CPC.inCrit] at hu
      · exact h.mutex u (by simpa [State.setC, hut] using hu)
    slot := fun u hu => by
      have hut : u ≠ t := fun hut => by have := h.slot u hu; rw [hut, hidle] at this; exact this
      simp only [State.setC, hut, if_false]; exact h.slot u hu
    nonCallerIdle := fun u hu => by simpa [State.setC, show u ≠ t by omega] using h.nonCallerIdle u hu }

theorem pipeEmpty_congr {s s' : State} (h : PipeEmpty s) (h1 : s'.inQ = s.inQ) (h2 : s'.wpc = s.wpc) (h3 : s'.outQ = s.outQ) (h4 : s'.rpc = s.rpc) :
    PipeEmpty s' := by
  unfold PipeEmpty at *; rw [h1, h2, h3, h4]; exact h

theorem inv_step {s s' : State} {t : Nat} {l : Label} (h : Inv s) (hs : step s t = some (s', l)) : Inv s' := by
  unfold step at hs
  split at hs
  · exact inv_stepR h hs
  · split at hs
    · exact inv_stepW h hs
    · exact inv_stepC h (by omega) hs

theorem reach_inv {s : State} (h : sys.Reach s) : Inv s := by
  refine Sys.Reach.invariant sys (P := Inv) ?_ ?_ ?_ h
  · intro s hi; cases hi; exact inv_init
  · intro s s' hi ⟨t, ans, wl, hc⟩; exact inv_call hi hc
  · intro s s' t l hi hs; exact inv_step hi hs

end MoThreads.PyProxy
