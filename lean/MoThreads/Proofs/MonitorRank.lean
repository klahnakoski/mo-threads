/-
  M3 (Monitor): every Lock operation is a bounded number of its own steps, so every run without new API
  calls (and without new timeouts) is finite: rank = Σ remaining steps of the calls in progress.
-/
import MoThreads.Model.Monitor
namespace MoThreads.Monitor

def rk : PC → Nat
  | .idle _ => 0 | .inside _ => 0
  | .e0 => 1
  | .x0 => 4 | .x1 => 3 | .x2 _ => 2 | .x3 => 1
  | .a0 .. => 7 | .a1 .. => 6 | .a2 .. => 5 | .a3 .. => 4 | .a4 .. => 4 | .a5 .. => 3 | .parked .. => 2 | .a6 .. => 1

def rank (N : Nat) (s : State) : Nat := sumTo N (fun t => rk (s.pc t))

def Below (N : Nat) (s : State) : Prop := ∀ t, N ≤ t → rk (s.pc t) = 0

theorem step_rk {s s' : State} {t : Nat} {l : Label} (hs : step s t = some (s', l)) :
    rk (s'.pc t) < rk (s.pc t) ∧ ∀ u, u ≠ t → rk (s'.pc u) = rk (s.pc u) := by
  unfold step at hs
  repeat' split at hs
  all_goals cases hs
  all_goals refine ⟨?_, fun u hu => congrArg rk (if_neg hu)⟩
  all_goals simp [State.setPc, rk, *]

theorem run_length_le_rank {N : Nat} {s s' : State} {tr : List (Nat × Label)} (hb : Below N s) (r : sys.Run s tr s') :
    tr.length + rank N s' ≤ rank N s :=
  Sys.Run.length_le_sumTo' sys (fun s t => rk (s.pc t)) (fun _ => True) (fun _ _ _ _ _ _ => trivial)
    (fun _ _ _ _ _ => step_rk) r trivial hb

end MoThreads.Monitor
