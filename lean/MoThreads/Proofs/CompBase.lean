/-
  Basic facts about M2 (Model/Composite.lean): point updates, pending actions across threads and how a move changes them
  (`TodoChg`: one equation between the counts, from which membership follows), the Bool searches of `collectable`,
  the runner `runSched` of the non-vacuity examples of Props/C03, C04, C15.
-/
import MoThreads.Model.Composite
namespace MoThreads.Composite
open MoThreads

theorem upd_same {α : Type} (f : Nat → α) (k : Nat) (v : α) : upd f k v k = v := by simp [upd]
theorem upd_other {α : Type} (f : Nat → α) {k j : Nat} (v : α) (h : j ≠ k) : upd f k v j = f j := by simp [upd, h]
theorem upd_self {α : Type} (f : Nat → α) (k : Nat) : upd f k (f k) = f := by
  funext j; unfold upd; split
  · next e => rw [e]
  · rfl

theorem upd_proj {α β : Type} (f : Nat → α) (p : α → β) {k : Nat} {v : α} (h : p v = p (f k)) (j : Nat) : p (upd f k v j) = p (f j) := by
  unfold upd; split
  · next e => rw [e, h]
  · rfl

theorem sumTo_upd {α : Type} (φ : α → Nat) {n k : Nat} (hk : k < n) (f : Nat → α) (v : α) :
    sumTo n (fun u => φ (upd f k v u)) + φ (f k) = sumTo n (fun u => φ (f u)) + φ v := by
  have := sumTo_update (f := fun u => φ (f u)) (g := fun u => φ (upd f k v u)) hk (by intro i hi; simp only [upd, hi, if_false])
  simp only [upd_same] at this
  omega

/-- operands of an expression under construction -/
def Act.operands : Act → List Nat
  | .orTest1 x y _ | .orTest2 x y _ | .orNew x y _ | .andNew x y => [x, y]
  | _ => []

theorem Act.operands_sub_sigs {b : Act} {z : Nat} (h : z ∈ b.operands) : z ∈ b.sigs := by
  cases b <;> first | exact h | cases h

def InTodos (s : State) (a : Act) : Prop := ∃ t, t < NT ∧ a ∈ s.todo t

def cnt (s : State) (a : Act) : Nat := sumTo NT (fun t => (s.todo t).count a)

theorem sumTo_pos {n : Nat} {f : Nat → Nat} : 0 < sumTo n f ↔ ∃ i, i < n ∧ 0 < f i := by
  induction n with
  | zero => simp [sumTo]
  | succ n ih =>
    rw [sumTo, Nat.add_pos_iff_pos_or_pos, ih]
    constructor
    · rintro (⟨i, hi, hf⟩ | hf)
      · exact ⟨i, by omega, hf⟩
      · exact ⟨n, by omega, hf⟩
    · rintro ⟨i, hi, hf⟩
      by_cases hin : i = n
      · exact .inr (hin ▸ hf)
      · exact .inl ⟨i, by omega, hf⟩

theorem cnt_pos {s : State} {a : Act} : 0 < cnt s a ↔ InTodos s a := by
  unfold cnt InTodos
  rw [sumTo_pos]
  constructor
  · rintro ⟨t, ht, h⟩; exact ⟨t, ht, List.count_pos_iff.mp h⟩
  · rintro ⟨t, ht, h⟩; exact ⟨t, ht, List.count_pos_iff.mpr h⟩

theorem cnt_zero {s : State} {a : Act} : cnt s a = 0 ↔ ¬ InTodos s a := by
  rw [← cnt_pos]; omega

/-- thread `t` has dropped the head `hd` of its pending list (`none`: a move of the environment) and pushed `new` in front -/
structure TodoChg (s s' : State) (t : Nat) (hd : Option Act) (new : List Act) : Prop where
  ht : t < NT
  ex : ∃ rest, s.todo t = hd.toList ++ rest ∧ s'.todo = upd s.todo t (new ++ rest)

namespace TodoChg
variable {s s' : State} {t : Nat} {hd : Option Act} {new : List Act}

theorem step {a : Act} {rest : List Act} (ht : t < NT) (hs : s.todo t = a :: rest) (hs' : s'.todo = upd s.todo t (new ++ rest)) :
    TodoChg s s' t (some a) new := ⟨ht, rest, hs, hs'⟩

theorem push (ht : t < NT) (hs' : s'.todo = upd s.todo t (new ++ s.todo t)) : TodoChg s s' t none new := ⟨ht, _, rfl, hs'⟩

theorem same (h : s'.todo = s.todo) : TodoChg s s' 0 none [] := ⟨by decide, _, rfl, by rw [h]; exact (upd_self _ _).symm⟩

theorem cnt (h : TodoChg s s' t hd new) (b : Act) : cnt s' b + (if hd = some b then 1 else 0) = cnt s b + new.count b := by
  obtain ⟨rest, hs, hs'⟩ := h.ex
  have key := sumTo_upd (List.count b) h.ht s.todo (new ++ rest)
  rw [hs, List.count_append, List.count_append] at key
  unfold Composite.cnt; rw [hs']
  cases hd with
  | none => simp at key ⊢; omega
  | some a => by_cases hb : a = b <;> simp [hb] at key ⊢ <;> omega

theorem head (h : TodoChg s s' t hd new) {a : Act} (he : hd = some a) : InTodos s a := by
  obtain ⟨rest, hs, _⟩ := h.ex
  exact ⟨t, h.ht, by rw [hs, he]; exact List.mem_cons_self⟩

theorem sub (h : TodoChg s s' t hd new) {b : Act} (hb : InTodos s' b) : b ∈ new ∨ InTodos s b := by
  have h1 := cnt_pos.mpr hb
  have h2 := h.cnt b
  by_cases hn : b ∈ new
  · exact Or.inl hn
  · rw [List.count_eq_zero.mpr hn] at h2; exact Or.inr (cnt_pos.mp (by omega))

theorem keep (h : TodoChg s s' t hd new) {b : Act} (hb : InTodos s b) (hne : hd ≠ some b) : InTodos s' b := by
  have h1 := cnt_pos.mpr hb
  have h2 := h.cnt b
  rw [if_neg hne] at h2; exact cnt_pos.mp (by omega)

theorem intro (h : TodoChg s s' t hd new) {b : Act} (hb : b ∈ new) : InTodos s' b := by
  have h1 := List.count_pos_iff.mpr hb
  have h2 := h.cnt b
  by_cases hh : hd = some b
  · have := cnt_pos.mpr (h.head hh); rw [if_pos hh] at h2; exact cnt_pos.mp (by omega)
  · rw [if_neg hh] at h2; exact cnt_pos.mp (by omega)

end TodoChg

structure TodoStep (s s' : State) (t : Nat) (a0 : Act) (rest new : List Act) : Prop where
  ht : t < NT
  hs : s.todo t = a0 :: rest
  hs' : s'.todo = upd s.todo t (new ++ rest)

namespace TodoStep
variable {s s' : State} {t : Nat} {a0 : Act} {rest new : List Act}

theorem chg (h : TodoStep s s' t a0 rest new) : TodoChg s s' t (some a0) new := .step h.ht h.hs h.hs'

theorem sub (h : TodoStep s s' t a0 rest new) {b : Act} (hb : InTodos s' b) : b ∈ new ∨ InTodos s b := h.chg.sub hb
theorem keep (h : TodoStep s s' t a0 rest new) {b : Act} (hb : InTodos s b) (hne : b ≠ a0) : InTodos s' b :=
  h.chg.keep hb fun e => hne (Option.some.inj e).symm
theorem intro (h : TodoStep s s' t a0 rest new) {b : Act} (hb : b ∈ new) : InTodos s' b := h.chg.intro hb
theorem head (h : TodoStep s s' t a0 rest new) : InTodos s a0 := h.chg.head rfl

end TodoStep

theorem anyBelow_true {n : Nat} {p : Nat → Bool} : anyBelow n p = true ↔ ∃ i, i < n ∧ p i = true := by
  simp [anyBelow, List.any_eq_true, List.mem_range]

theorem anyThread_true {p : Nat → Bool} : anyThread p = true ↔ ∃ t, t < NT ∧ p t = true := anyBelow_true

theorem anyTodo_true {s : State} {p : Act → Bool} : (anyThread fun t => (s.todo t).any p) = true ↔ ∃ a, InTodos s a ∧ p a = true := by
  simp only [anyThread_true, List.any_eq_true, InTodos]
  exact ⟨fun ⟨t, ht, a, ha, hp⟩ => ⟨a, ⟨t, ht, ha⟩, hp⟩, fun ⟨a, ⟨t, ht, ha⟩, hp⟩ => ⟨t, ht, a, ha, hp⟩⟩

theorem sigInTodos_true {s : State} {z : Nat} : sigInTodos s z = true ↔ ∃ a, InTodos s a ∧ z ∈ a.sigs := by
  simp [sigInTodos, anyTodo_true]

theorem orInTodos_true {s : State} {o : Nat} : orInTodos s o = true ↔ ∃ a j, InTodos s a ∧ a.job = some j ∧ j.orObj = some o := by
  simp [orInTodos, anyTodo_true, Option.bind_eq_some_iff]

theorem andInTodos_true {s : State} {n : Nat} : andInTodos s n = true ↔ ∃ a j, InTodos s a ∧ a.job = some j ∧ j.andObj = some n := by
  simp [andInTodos, anyTodo_true, Option.bind_eq_some_iff]

theorem orRef_of_target_alive {s : State} {o : Nat} (h : (s.sigs (s.ors o).target).alive = true) : orRef s o = true := by
  unfold orRef; simp [h]

theorem andRef_of_job {s : State} {n z : Nat} {j : Job} (hz : z < s.nSig) (ha : (s.sigs z).alive = true) (hj : j ∈ (s.sigs z).jobs)
    (hn : j.andObj = some n) : andRef s n = true := by
  unfold andRef
  apply Bool.or_eq_true_iff.mpr; right
  rw [anyBelow_true]
  exact ⟨z, hz, by simp only [ha, Bool.true_and]; exact List.any_eq_true.mpr ⟨j, hj, by simpa using hn⟩⟩

theorem andRef_of_todo {s : State} {n : Nat} {a : Act} {j : Job} (ha : InTodos s a) (hj : a.job = some j) (hn : j.andObj = some n) :
    andRef s n = true := by
  unfold andRef
  apply Bool.or_eq_true_iff.mpr; left
  exact andInTodos_true.mpr ⟨a, j, ha, hj, hn⟩

theorem count_map_run (l : List Job) (j : Job) : (l.map Act.run).count (Act.run j) = l.count j := by
  induction l with
  | nil => rfl
  | cons x r ih =>
    simp only [List.map_cons, List.count_cons, ih]
    by_cases hx : x = j
    · subst hx; simp
    · have : ¬ Act.run x = Act.run j := by intro he; injection he with h1; exact hx h1
      simp [hx, this]

/-- no operation, callback or cleanup is in progress -/
def Quiet (s : State) : Prop := ∀ t, t < NT → s.todo t = []

theorem not_inTodos_of_quiet {s : State} (hq : Quiet s) (a : Act) : ¬ InTodos s a := by
  rintro ⟨t, ht, hm⟩; rw [hq t ht] at hm; cases hm

def runSched (s : State) : List Nat → Option State
  | [] => some s
  | t :: ts => match step s t with
    | some (s', _) => runSched s' ts
    | none => none

theorem reach_runSched {s s' : State} (ts : List Nat) (h : sys.Reach s) (hr : runSched s ts = some s') : sys.Reach s' := by
  induction ts generalizing s with
  | nil => cases hr; exact h
  | cons t ts ih =>
    simp only [runSched] at hr
    cases hst : step s t with
    | none => rw [hst] at hr; cases hr
    | some p =>
      rw [hst] at hr
      exact ih (Sys.Reach.step (t := t) (l := p.2) h (by show step s t = some (p.1, p.2); rw [hst])) hr

theorem some_getD_of_isSome {α : Type} (o : Option α) (d : α) (h : o.isSome = true) : o = some (o.getD d) := by
  cases o with
  | none => cases h
  | some x => rfl

theorem reach_call_run {s : State} {t : Nat} {op : Op} {ts : List Nat} (h : sys.Reach s) (h1 : (call s t op).isSome = true)
    (h2 : (runSched ((call s t op).getD init) ts).isSome = true) : sys.Reach ((runSched ((call s t op).getD init) ts).getD init) :=
  reach_runSched ts (Sys.Reach.env h (Or.inl ⟨t, op, some_getD_of_isSome _ init h1⟩)) (some_getD_of_isSome _ init h2)

-- `c = a | b` is built, then `a.go()`

def demoO0 : State := newLeaf (newLeaf init)                                   -- a = 2, b = 3
def demoO1 : Option State := call demoO0 0 (.mkOr 2 3)
def demoO2 : Option State := runSched (demoO1.getD init) [0, 0, 0, 0, 0, 0, 0]    -- tests, OrSignal, three registrations, ret: c = 4
def demoO3 : Option State := call (demoO2.getD init) 1 (.go 2)
def demoO4 : Option State := runSched (demoO3.getD init) [1, 1, 1, 1, 1, 1]       -- flag, hook, c.go(), cleanup, two removals

theorem demoO_reach : sys.Reach (demoO2.getD init) ∧ sys.Reach (demoO4.getD init) := by
  have r0 : sys.Reach demoO0 :=
    Sys.Reach.env (Sys.Reach.env (Sys.Reach.init rfl) (Or.inr (Or.inl rfl))) (Or.inr (Or.inl rfl))
  have r2 : sys.Reach (demoO2.getD init) := reach_call_run r0 (by decide +kernel) (by decide +kernel)
  exact ⟨r2, reach_call_run r2 (by decide +kernel) (by decide +kernel)⟩

end MoThreads.Composite
