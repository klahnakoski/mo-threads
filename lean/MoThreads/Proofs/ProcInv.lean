/-
  Inductive invariant of M8 (Model/ProcessIO.lean).  A step case restates the invariant at the mover's pc (`Inv.at_mpc`,
  `Inv.at_upc`), so that the classifications compute, and names in `{ h with … }` the fields it has something to say
  about.  What a reader and its stream satisfy is one bundle over plain values, `Stream`.
-/
import MoThreads.Model.ProcessIO
namespace MoThreads.ProcessIO

/-- the line a reader has taken from its pipe and not yet put into its queue -/
def RPC.hand : RPC → List Nat
  | .add x => [x]
  | _ => []

/-- the reader has left its loop -/
def RPC.finished : RPC → Bool
  | .fin1 | .fin2 | .exiting | .done => true
  | _ => false

def RPC.closedQ : RPC → Bool
  | .exiting | .done => true
  | _ => false

def RPC.isDone : RPC → Bool
  | .done => true
  | _ => false

/-- the monitor has left its loop -/
def MPC.left : MPC → Bool
  | .test | .idle | .wait | .chk => false
  | _ => true

def MPC.pastPost : MPC → Bool
  | .join0 | .join1 | .setStopped | .done => true
  | _ => false

/-- the readers whose join the monitor is past: those below this number -/
def MPC.joined : MPC → Nat
  | .join1 => 1
  | .setStopped | .done => 2
  | _ => 0

def MPC.isDone : MPC → Bool
  | .done => true
  | _ => false

def UPC.afterStopped : UPC → Bool
  | .idle | .jwait => false
  | _ => true

/-- what the caller of join() has found after `stopped`; `rs`: a return code has been reaped, `ex`: how the child ended,
`us`: the program called stop() -/
def UPC.found (rs : Bool) (ex : Option Nat) (us : Bool) : UPC → Prop
  | .jchk2 => rs = true
  | .returned => ex = some 0
  | .raisedFail => ∃ st, ex = some st ∧ st ≠ 0
  | .raisedTimeout => us = true ∧ ex.isSome = true
  | _ => True

def Ending (s : State) : Prop := s.userStop = true ∨ s.exited.isSome = true

theorem ending_mono {s s' : State} (h : Ending s) (hu : s.userStop = true → s'.userStop = true)
    (he : s.exited.isSome = true → s'.exited.isSome = true) : Ending s' :=
  h.imp hu he

theorem linesOf_cons_same (k x : Nat) (r : List (Nat × Nat)) : linesOf k ((k, x) :: r) = x :: linesOf k r := by simp [linesOf]
theorem linesOf_cons_other {j k : Nat} (x : Nat) (r : List (Nat × Nat)) (h : ¬ k = j) :
    linesOf j ((k, x) :: r) = linesOf j r := by simp [linesOf, h]

/-- A reader at `p` and its stream.  `w`: what the child has written to it, `ab`: the monitor has abandoned the reader
(processes.py: "THREAD LOST ON PIPE.readline()"; nothing is claimed of its lines then), `ex`: the child has ended,
`jd`: the monitor is past its join of the reader. -/
structure Stream (p : RPC) (buf q w : List Nat) (cl ab ex : Bool) (jd : Prop) : Prop where
  data : ab = false → q ++ p.hand ++ buf = w
  eof : p.finished = true → ab = false → ex = true ∧ buf = []
  closed : cl = (ab || p.closedQ)
  joined : jd → p.isDone = true ∨ ab = true

structure Inv (s : State) : Prop where
  lines : ∀ k, s.written k ++ linesOf k s.script = linesOf k s.script0
  exit : ∀ st, s.exited = some st → (s.killed = true ∧ st = KILLED) ∨ (s.killed = false ∧ st = s.status ∧ s.script = [])
  runningNotKilled : s.exited = none → s.killed = false
  stream : ∀ k, Stream (s.rpc k) (s.buf k) (s.q k) (s.written k) (s.closed k) (s.abandoned k) s.exited.isSome (k < s.mpc.joined)
  rc : ∀ st, s.rc = some st → s.exited = some st
  stopped : s.stopped = s.mpc.isDone
  leftEnding : s.mpc.left = true → Ending s
  pstopEnding : s.pstop = true → Ending s
  abandonedEnding : ∀ k, s.abandoned k = true → Ending s
  noRcUserStop : s.mpc.pastPost = true → s.rc = none → s.userStop = true
  sawStopped : s.upc.afterStopped = true → s.stopped = true
  found : s.upc.found s.rc.isSome s.exited s.userStop

theorem inv_init (sc : List (Nat × Nat)) (st : Nat) : Inv (init sc st) where
  lines _ := rfl
  exit _ := nofun
  runningNotKilled _ := rfl
  stream _ := ⟨fun _ => rfl, nofun, rfl, nofun⟩
  rc _ := nofun
  stopped := rfl
  leftEnding := nofun
  pstopEnding := nofun
  abandonedEnding _ := nofun
  noRcUserStop := nofun
  sawStopped := nofun
  found := trivial

variable {s s' : State} {l : Label} {p : RPC} {buf q w : List Nat} {cl ab ex : Bool} {jd : Prop}

theorem Inv.at_mpc {p : MPC} (h : Inv s) (hp : s.mpc = p) : Inv { s with mpc := p } := by subst hp; exact h
theorem Inv.at_upc {p : UPC} (h : Inv s) (hp : s.upc = p) : Inv { s with upc := p } := by subst hp; exact h

theorem MPC.isDone_iff {p : MPC} : p.isDone = true ↔ p = .done := by cases p <;> simp [MPC.isDone]
theorem RPC.isDone_iff {p : RPC} : p.isDone = true ↔ p = .done := by cases p <;> simp [RPC.isDone]

theorem Inv.rc_ended (h : Inv s) (hr : s.rc.isSome = true) : s.exited.isSome = true := by
  obtain ⟨a, e⟩ := Option.isSome_iff_exists.mp hr
  rw [h.rc a e]; rfl

theorem Inv.own_exit (h : Inv s) {st : Nat} (he : s.exited = some st) (hk : s.killed = false) : st = s.status ∧ s.script = [] := by
  rcases h.exit st he with ⟨hk', _⟩ | ⟨_, h2⟩
  · cases hk'.symm.trans hk
  · exact h2

theorem Stream.write (h : Stream p buf q w cl ab ex jd) (hex : ex = false) (x : Nat) :
    Stream p (buf ++ [x]) q (w ++ [x]) cl ab ex jd :=
  { h with
    data := fun a => by rw [← h.data a]; simp
    eof := fun f a => by rw [(h.eof f a).1] at hex; cases hex }

theorem Stream.ended (h : Stream p buf q w cl ab ex jd) (hex : ex = false) : Stream p buf q w cl ab true jd :=
  { h with eof := fun f a => by rw [(h.eof f a).1] at hex; cases hex }

/-- the monitor gets past the join of reader `n` -/
theorem Stream.next {k n : Nat} (h : Stream p buf q w cl ab ex (k < n)) (hn : k = n → p.isDone = true ∨ ab = true) :
    Stream p buf q w cl ab ex (k < n + 1) :=
  { h with joined := fun hk => (Nat.lt_succ_iff_lt_or_eq.mp hk).elim h.joined hn }

theorem Stream.abandon : Stream p buf q w true true ex jd :=
  ⟨nofun, fun _ => nofun, rfl, fun _ => .inr rfl⟩

theorem Stream.of_closed (h : Stream p buf q w cl ab ex jd) (hc : cl = true) (ha : ab = false) : q = w ∧ ex = true := by
  have hq : p.closedQ = true := by simpa [ha, hc] using h.closed.symm
  have hf : p.finished = true ∧ p.hand = [] := by
    cases p with
    | exiting | done => exact ⟨rfl, rfl⟩
    | _ => cases hq
  have hd := h.data ha
  rw [hf.2, (h.eof hf.1 ha).2] at hd
  exact ⟨by simpa using hd, (h.eof hf.1 ha).1⟩

theorem UPC.found_mono {p : UPC} {rs rs' us us' : Bool} {ex ex' : Option Nat} (h : p.found rs ex us) (hr : rs = true → rs' = true)
    (he : ∀ a, ex = some a → ex' = some a) (hu : us = true → us' = true) : p.found rs' ex' us' := by
  cases p with
  | jchk2 => exact hr h
  | returned => exact he 0 h
  | raisedFail => exact h.imp fun a ha => ⟨he a ha.1, ha.2⟩
  | raisedTimeout =>
    obtain ⟨a, e⟩ := Option.isSome_iff_exists.mp h.2
    exact ⟨hu h.1, by rw [he a e]; rfl⟩
  | _ => trivial

theorem Inv.ended (h : Inv s) (he : s.exited = none) {x : Nat} {kd : Bool}
    (hx : (kd = true ∧ x = KILLED) ∨ (kd = false ∧ x = s.status ∧ s.script = [])) :
    Inv { s with exited := some x, killed := kd } :=
  { h with
    exit := fun _ e => Option.some.inj e ▸ hx
    runningNotKilled := nofun
    stream := fun k => (h.stream k).ended (by rw [he]; rfl)
    rc := fun a e => nomatch he.symm.trans (h.rc a e)
    leftEnding := fun _ => .inr rfl
    pstopEnding := fun _ => .inr rfl
    abandonedEnding := fun _ _ => .inr rfl
    found := UPC.found_mono h.found id (fun _ e => nomatch he.symm.trans e) id }

theorem Inv.reap (h : Inv s) {st : Nat} (he : s.exited = some st) : Inv { s with rc := some st } :=
  { h with
    rc := fun _ e => Option.some.inj e ▸ he
    noRcUserStop := fun _ => nofun
    found := UPC.found_mono h.found (fun _ => rfl) (fun _ => id) id }

theorem doKill_eq (s : State) :
    (∃ st, s.exited = some st ∧ doKill s = ({ s with rc := some st }, true)) ∨
    (s.exited = none ∧ doKill s = ({ s with exited := some KILLED, killed := true }, false)) := by
  unfold doKill; split
  · exact .inl ⟨_, ‹_›, rfl⟩
  · exact .inr ⟨‹_›, rfl⟩

theorem inv_stepChild (h : Inv s) (hs : stepChild s = some (s', l)) : Inv s' := by
  unfold stepChild at hs
  split at hs
  · cases hs
  next he =>
    split at hs
    next k x rest hsc =>
      cases hs
      refine { h with lines := fun j => ?_, exit := fun _ e => (nomatch he.symm.trans e), stream := fun j => ?_ }
      · have hl := h.lines j
        rw [hsc] at hl
        simp only [upd]; split
        next e => subst e; rw [← hl, linesOf_cons_same]; simp
        next e => rwa [linesOf_cons_other x rest (Ne.symm e)] at hl
      · simp only [upd]; split
        next e => subst e; exact (h.stream j).write (by rw [he]; rfl) x
        · exact h.stream j
    next hsc => cases hs; exact h.ended he (.inr ⟨h.runningNotKilled he, rfl, hsc⟩)

theorem inv_stepReader (k : Nat) (h : Inv s) (hs : stepReader s k = some (s', l)) : Inv s' := by
  have r := h.stream k
  unfold stepReader at hs
  generalize s.rpc k = p at r hs
  cases p <;> simp only at hs
  case read =>
    split at hs
    next x rest hb =>
      cases hs; rw [hb] at r
      refine { h with stream := fun j => ?_ }
      simp only [upd]; split
      next e => subst e; exact { r with data := fun a => by simpa [RPC.hand] using r.data a, eof := nofun }
      · exact h.stream j
    next hb =>
      split at hs <;> cases hs
      next hex =>
        refine { h with stream := fun j => ?_ }
        simp only [upd]; split
        next e => subst e; exact { r with eof := fun _ _ => ⟨hex, hb⟩ }
        · exact h.stream j
  case add x =>
    split at hs <;> cases hs
    next hc =>
      -- "Do not add to closed queue": only the monitor can have closed it, abandoning the reader
      have ha : s.abandoned k = true := by simpa [hc, RPC.closedQ] using r.closed.symm
      refine { h with stream := fun j => ?_ }
      simp only [upd]; split
      next e => subst e; exact { r with data := fun a => (nomatch ha.symm.trans a), eof := fun _ a => (nomatch ha.symm.trans a) }
      · exact h.stream j
    · refine { h with stream := fun j => ?_ }
      simp only [upd]; split
      next e => subst e; exact { r with data := fun a => by simpa [RPC.hand] using r.data a }
      · exact h.stream j
  case fin1 =>
    cases hs
    have he : Ending s := by
      cases ha : s.abandoned k
      · exact .inr (r.eof rfl ha).1
      · exact h.abandonedEnding k ha
    refine { h with stream := fun j => ?_, pstopEnding := fun _ => he }
    simp only [upd]; split
    next e => subst e; exact { r with }
    · exact h.stream j
  case fin2 =>
    cases hs
    refine { h with stream := fun j => ?_ }
    simp only [upd]; split
    next e => subst e; exact { r with closed := (Bool.or_true _).symm }
    · exact h.stream j
  case exiting =>
    cases hs
    refine { h with stream := fun j => ?_ }
    simp only [upd]; split
    next e => subst e; exact { r with joined := fun _ => .inl rfl }
    · exact h.stream j
  case done => cases hs

theorem inv_stepMonitor (h : Inv s) (hs : stepMonitor s = some (s', l)) : Inv s' := by
  unfold stepMonitor at hs
  have h := h.at_mpc rfl
  generalize s.mpc = p at h hs
  cases p <;> simp only at hs
  case test =>
    cases hs
    split
    · exact { h with leftEnding := fun _ => h.pstopEnding ‹_› }
    · exact { h with }
  case idle => cases hs; exact { h with }
  case wait =>
    split at hs <;> cases hs
    next st he => exact { h.reap he with }
  case chk =>
    cases hs
    split
    · exact { h with leftEnding := fun _ => .inr (h.rc_ended ‹_›) }
    · exact { h with }
  case post =>
    cases hs
    split
    next hr => exact { h with noRcUserStop := fun _ e => by rw [e] at hr; cases hr }
    · exact { h with }
  case postWait =>
    split at hs <;> cases hs
    next st he => exact { h.reap he with noRcUserStop := fun _ => nofun }
  case join0 =>
    split at hs <;> cases hs
    next h0 => exact { h with stream := fun k => (h.stream k).next fun e => .inl (e ▸ RPC.isDone_iff.mpr h0) }
  case join1 =>
    split at hs <;> cases hs
    next h1 => exact { h with stream := fun k => (h.stream k).next fun e => .inl (e ▸ RPC.isDone_iff.mpr h1) }
  case setStopped => cases hs; exact { h with stopped := rfl, sawStopped := fun _ => rfl }
  case done => cases hs

theorem inv_stepUser (h : Inv s) (hs : stepUser s = some (s', l)) : Inv s' := by
  unfold stepUser at hs
  have h := h.at_upc rfl
  generalize s.upc = p at h hs
  cases p <;> simp only at hs
  case jwait =>
    split at hs <;> cases hs
    next hst => exact { h with sawStopped := fun _ => hst }
  case jchk =>
    split at hs
    next st hr => cases hs; exact { h with found := by rw [hr]; rfl }
    next hr =>
      -- no return code after `stopped`: the monitor gave up waiting, which it does only after stop()
      have hd := MPC.isDone_iff.mp (h.stopped ▸ h.sawStopped rfl)
      have hus : s.userStop = true := h.noRcUserStop (by rw [hd]; rfl) hr
      rcases doKill_eq s with ⟨st, he, e⟩ | ⟨he, e⟩ <;> rw [e] at hs <;> cases hs
      · exact { h.reap he with found := ⟨hus, by rw [he]; rfl⟩ }
      · exact { h.ended he (.inl ⟨rfl, rfl⟩) with found := ⟨hus, rfl⟩ }
  case jchk2 =>
    cases hs
    obtain ⟨a, hr⟩ := Option.isSome_iff_exists.mp h.found
    have he : s.exited = some a := h.rc a hr
    split
    next h0 => exact { h with found := he.trans (hr.symm.trans h0) }
    next h0 => exact { h with found := ⟨a, he, fun e => h0 (e ▸ hr)⟩ }
  all_goals cases hs

theorem inv_waitTimeout (h : Inv s) (hs : waitTimeout s = some s') : Inv s' := by
  unfold waitTimeout at hs
  split at hs
  · cases hs
  next he =>
    split at hs
    next hp => cases hs; exact { h.at_mpc hp with }
    next hp =>
      cases hs; have h := h.at_mpc hp
      exact { h with noRcUserStop := fun _ _ => (h.leftEnding rfl).resolve_right (by rw [he]; nofun) }
    · cases hs

theorem inv_idleKill (h : Inv s) (hs : idleKill s = some s') : Inv s' := by
  unfold idleKill at hs
  split at hs
  next hp =>
    rcases doKill_eq s with ⟨st, he, e⟩ | ⟨he, e⟩ <;> rw [e] at hs <;> cases hs
    · exact { (h.reap he).at_mpc hp with leftEnding := fun _ => .inr (by rw [he]; rfl) }
    · exact { (h.ended he (.inl ⟨rfl, rfl⟩)).at_mpc hp with leftEnding := fun _ => .inr rfl }
  · cases hs

theorem inv_abandon (k : Nat) (h : Inv s) (hs : abandon s k = some s') : Inv s' := by
  unfold abandon at hs
  split at hs
  case _ hp | _ hp =>
    split at hs
    · cases hs
    · cases hs; have h := h.at_mpc hp
      refine { h with abandonedEnding := fun _ _ => h.leftEnding rfl, stream := fun j => ?_ }
      simp only [upd]; split
      next e => subst e; exact .abandon
      next e => exact (h.stream j).next fun e' => absurd e' e
  · cases hs

theorem inv_userStop (h : Inv s) : Inv (userStop s) :=
  { h with
    leftEnding := fun _ => .inl rfl
    pstopEnding := fun _ => .inl rfl
    abandonedEnding := fun _ _ => .inl rfl
    noRcUserStop := fun _ _ => rfl
    found := UPC.found_mono h.found id (fun _ => id) fun _ => rfl }

theorem inv_callJoin (h : Inv s) (hs : callJoin s = some s') : Inv s' := by
  unfold callJoin at hs
  split at hs
  next hp => cases hs; exact { h.at_upc hp with }
  · cases hs

theorem inv_writerStop (h : Inv s) (hs : writerStop s = some s') : Inv s' := by
  unfold writerStop at hs
  split at hs
  case _ hp | _ hp => cases hs; exact { h with pstopEnding := fun _ => h.leftEnding (by rw [hp]; rfl) }
  · cases hs

theorem inv_step (h : Inv s) : ∀ {t : Nat}, step s t = some (s', l) → Inv s'
  | 0, hs => inv_stepChild h hs
  | 1, hs => inv_stepReader 0 h hs
  | 2, hs => inv_stepReader 1 h hs
  | 3, hs => inv_stepMonitor h hs
  | 4, hs => inv_stepUser h hs
  | _ + 5, hs => nomatch hs

theorem reach_inv (h : sys.Reach s) : Inv s := by
  refine Sys.Reach.invariant sys (P := Inv) ?_ ?_ ?_ h
  · rintro s ⟨sc, st, -, rfl⟩; exact inv_init sc st
  · rintro s s' hi (he | he | ⟨k, he⟩ | rfl | he | he)
    · exact inv_waitTimeout hi he
    · exact inv_idleKill hi he
    · exact inv_abandon k hi he
    · exact inv_userStop hi
    · exact inv_callJoin hi he
    · exact inv_writerStop hi he
  · intro s s' t l hi hs; exact inv_step hi hs

end MoThreads.ProcessIO
