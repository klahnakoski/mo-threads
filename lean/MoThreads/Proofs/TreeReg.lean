/-
  M5 (ThreadTree): the tree of threads and the registry ALL — one invariant `Tree` beside `Inv`, for "MainThread.stop()
  leaves no registered thread behind" (C11), the ranking and the liveness argument.  Preservation follows the two move
  shapes of TreeMain (`Tree.call_update`, `Tree.phase_update`, same defaults), composed with one lemma per other thing a
  step writes (`Tree.shrink`, `add`, `del`, `stopped`, `alloc`; the registration of a child: `Tree.reg`).
-/
import MoThreads.Proofs.TreeStop
namespace MoThreads.ThreadTree

def JAct.tgt : JAct → Nat
  | .start u | .mark u | .wait u | .unreg u | .finish u _ => u

def Phase.unregistered : Phase → Bool
  | .fin6 _ | .linger | .dead | .absent | .created => true
  | _ => false

/-- `x` is one of `top` or registered below one of them; over the table of registrations alone, so that a move
which leaves `everChild` alone leaves `Tree.jw` alone by unfolding -/
inductive Under (ev : Nat → List Nat) (top : List Nat) : Nat → Prop
  | top {x} : x ∈ top → Under ev top x
  | child {u c} : Under ev top u → c ∈ ev u → Under ev top c

theorem Under.mono {ev ev' : Nat → List Nat} (hm : ∀ p c, c ∈ ev p → c ∈ ev' p) {top : List Nat} {x : Nat}
    (h : Under ev top x) : Under ev' top x := by
  induction h with
  | top hx => exact .top hx
  | child _ hc ih => exact ih.child (hm _ _ hc)

theorem Under.desc {s : State} {t : Nat} {top : List Nat} (ht : ∀ c, c ∈ top → Desc s t c) {x : Nat}
    (h : Under s.everChild top x) : Desc s t x := by
  induction h with
  | top hx => exact ht _ hx
  | child _ hc ih => exact desc_trans ih (.child hc)

/-- a spawner is the parent of the thread it creates (unless that is an orphan); MainThread.stop() keeps its snapshot
above its children list until the join phase is over, and then every thread ever registered under it has stopped -/
def CallOK (s : State) (t : Nat) : Call → Prop
  | .spawn c => s.orphan c = false → s.parent c = t ∧ t < c
  | .mS cs _ | .mJ cs _ _ => ∀ c, c ∈ s.children t → c ∈ cs
  | .m2 .. | .mRS .. | .mRJ .. => ∀ c, c ∈ s.everChild t → s.stopped c = true
  | _ => True

theorem CallOK.mono {s s' : State} {t : Nat} {c : Call} (h : CallOK s t c)
    (hch : ∀ x, x ∈ s'.children t → x ∈ s.children t := by exact fun _ hx => hx)
    (hev : ∀ x, x ∈ s'.everChild t → x ∈ s.everChild t := by exact fun _ hx => hx)
    (hst : ∀ x, s.stopped x = true → s'.stopped x = true := by exact fun _ hx => hx)
    (hpo : ∀ y, c = .spawn y → s'.parent y = s.parent y ∧ s'.orphan y = s.orphan y := by exact fun _ _ => ⟨rfl, rfl⟩) :
    CallOK s' t c := by
  cases c with
  | spawn y => obtain ⟨h1, h2⟩ := hpo y rfl; intro ho; rw [h1]; exact h (h2 ▸ ho)
  | mS | mJ => exact fun x hx => h x (hch x hx)
  | m2 | mRS | mRJ => exact fun x hx => hst x (h x (hev x hx))
  | _ => trivial

structure Tree (s : State) : Prop where
  callOK : ∀ t, CallOK s t (s.call t)
  jw     : ∀ t top work tl raised, (s.call t).jwork = some (top, work, tl, raised) → ∀ a, a ∈ work → Under s.everChild top a.tgt
  main   : s.phase 0 = .running
  unreg  : ∀ t, (s.phase t).unregistered = true → s.inAll t = false
  par    : ∀ c, c ≠ 0 → s.phase c ≠ .absent → s.orphan c = false → c ∈ s.everChild (s.parent c)
  sub    : ∀ p c, c ∈ s.children p → c ∈ s.everChild p
  lt     : ∀ p c, c ∈ s.everChild p → p < c ∧ c < s.nextId
  live   : ∀ p c, c ∈ s.everChild p → s.phase p ≠ .absent
  unborn : ∀ p c, c ∈ s.everChild p → s.phase c = .absent → s.call p = .spawn c
  nodup  : ∀ p, (s.children p).Nodup
  allND  : s.allOrder.Nodup
  all    : ∀ t, t ∈ s.allOrder ↔ s.inAll t = true
  finC   : ∀ t cs, (s.phase t).finCs = some cs → ∀ c, c ∈ cs → c ∈ s.everChild t
  fin2C  : ∀ t cs, s.phase t = .fin2 cs → ∃ w, s.call t = .stopping w

theorem tree_init : Tree init := by
  refine ⟨fun _ => trivial, nofun, rfl, ?_, ?_, nofun, nofun, nofun, nofun, fun _ => .nil, by simp [init], by simp [init], ?_, ?_⟩
  · intro t ht; by_cases h0 : t = 0 <;> simp_all [init, Phase.unregistered]
  · intro c hc hp; simp [init, hc] at hp
  · intro t cs h; simp only [init] at h; split at h <;> cases h
  · intro t cs h; simp only [init] at h; split at h <;> cases h

theorem Tree.call_update {s : State} (h : Tree s) {t : Nat} {p : Phase} {c : Call} (hph : s.phase t = p) (hc : s.call t = c) (c' : Call)
    {ps jn : Nat → Bool} (hok : CallOK s t c' := by trivial)
    (hjw : ∀ top work tl raised, c'.jwork = some (top, work, tl, raised) → ∀ a, a ∈ work → Under s.everChild top a.tgt := by exact nofun)
    (hsp : ∀ x, c = .spawn x → s.phase x ≠ .absent := by exact nofun)
    (hf2 : ∀ cs, p = .fin2 cs → ∃ w, c' = .stopping w := by exact nofun) :
    Tree { s with call := upd s.call t c', pstop := ps, joiner := jn } := by
  subst hph hc
  exact { h with
    callOK := fun u => by
      show CallOK s u (upd s.call t c' u)
      by_cases hu : u = t
      · subst hu; rw [upd_same]; exact hok
      · rw [upd_other _ _ hu]; exact h.callOK u
    jw := fun u top work tl raised hw => by
      rcases upd_app hw with ⟨_, hq⟩ | ⟨_, hq⟩
      · exact hjw top work tl raised hq
      · exact h.jw u top work tl raised hq
    unborn := fun p c hc hp => by
      show upd s.call t c' p = _
      have := h.unborn p c hc hp
      rw [upd_other _ _ (by rintro rfl; exact hsp c this hp)]; exact this
    fin2C := fun u cs hp => by
      show ∃ w, upd s.call t c' u = _
      by_cases hu : u = t
      · subst hu; rw [upd_same]; exact hf2 cs hp
      · rw [upd_other _ _ hu]; exact h.fin2C u cs hp }

theorem Tree.phase_update {s : State} (h : Tree s) {t : Nat} {p : Phase} (hph : s.phase t = p) (q : Phase) {oc : Nat → Option Outcome}
    (hA : p = .absent → t ≠ 0 → s.orphan t = false → t ∈ s.everChild (s.parent t) := by exact nofun)
    (hq : q ≠ .absent := by exact nofun) (h0 : p = .running → q = .running ∨ t ≠ 0 := by exact nofun)
    (hU : q.unregistered = true → s.inAll t = false := by exact nofun)
    (hC : ∀ cs, q.finCs = some cs → ∀ c, c ∈ cs → c ∈ s.everChild t := by exact nofun)
    (h2 : ∀ cs, q = .fin2 cs → ∃ w, s.call t = .stopping w := by exact nofun) :
    Tree { s with phase := upd s.phase t q, outcome := oc } := by
  subst hph
  have hab : ∀ u, upd s.phase t q u = .absent → s.phase u = .absent := fun u hu => by
    rcases upd_eq hu with ⟨_, e⟩ | ⟨_, e⟩
    · exact absurd e hq
    · exact e
  exact { h with
    main := by
      show upd s.phase t q 0 = _
      by_cases ht : 0 = t
      · subst ht; rw [upd_same]; exact (h0 h.main).resolve_right (fun e => e rfl)
      · rw [upd_other _ _ ht]; exact h.main
    unreg := fun u hu => by
      rcases upd_app hu with ⟨rfl, hq⟩ | ⟨_, hq⟩
      · exact hU hq
      · exact h.unreg u hq
    par := fun c hc (hp : upd s.phase t q c ≠ .absent) ho => by
      by_cases hct : c = t
      · by_cases hpa : s.phase c = .absent
        · exact hA (hct ▸ hpa) (hct ▸ hc) (hct ▸ ho) |> (hct ▸ ·)
        · exact h.par c hc hpa ho
      · rw [upd_other _ _ hct] at hp; exact h.par c hc hp ho
    live := fun p c hc e => h.live p c hc (hab p e)
    unborn := fun p c hc hp => h.unborn p c hc (hab c hp)
    finC := fun u cs hu => by
      rcases upd_app hu with ⟨rfl, hq⟩ | ⟨_, hq⟩
      · exact hC cs hq
      · exact h.finC u cs hq
    fin2C := fun u cs hu => by
      rcases upd_eq hu with ⟨rfl, hq⟩ | ⟨_, hq⟩
      · exact h2 cs hq
      · exact h.fin2C u cs hq }

theorem Tree.shrink {s : State} (h : Tree s) (q : Nat) {l : List Nat} (hsub : ∀ x, x ∈ l → x ∈ s.children q) (hnd : l.Nodup) :
    Tree { s with children := upd s.children q l } := by
  have hs : ∀ p x, x ∈ upd s.children q l p → x ∈ s.children p := fun p x hx => by
    by_cases hp : p = q
    · rw [hp, upd_same] at hx; exact hp ▸ hsub x hx
    · rwa [upd_other _ _ hp] at hx
  exact { h with
    callOK := fun u => (h.callOK u).mono (hch := hs u)
    sub := fun p c hc => h.sub p c (hs p c hc)
    nodup := fun p => by
      show (upd s.children q l p).Nodup
      by_cases hp : p = q
      · rw [hp, upd_same]; exact hnd
      · rw [upd_other _ _ hp]; exact h.nodup p }

theorem Tree.erase {s : State} (h : Tree s) (q u : Nat) : Tree { s with children := upd s.children q ((s.children q).erase u) } :=
  h.shrink q (fun _ => List.mem_of_mem_erase) ((h.nodup q).erase u)

theorem Tree.del {s : State} (h : Tree s) (t : Nat) : Tree { s with inAll := upd s.inAll t false, allOrder := s.allOrder.erase t } :=
  { h with
    unreg := fun u hu => by
      show upd s.inAll t false u = false
      by_cases hut : u = t
      · rw [hut, upd_same]
      · rw [upd_other _ _ hut]; exact h.unreg u hu
    allND := h.allND.erase t
    all := fun u => by
      show u ∈ s.allOrder.erase t ↔ upd s.inAll t false u = true
      rw [List.Nodup.mem_erase_iff h.allND]
      by_cases hut : u = t
      · rw [hut, upd_same]; simp
      · rw [upd_other _ _ hut, ← h.all u]; simp [hut] }

theorem Tree.add {s : State} (h : Tree s) {t : Nat} (hp : (s.phase t).unregistered = false) :
    Tree { s with inAll := upd s.inAll t true, allOrder := if s.inAll t then s.allOrder else s.allOrder ++ [t] } :=
  { h with
    unreg := fun u hu => by
      show upd s.inAll t true u = false
      rw [upd_other _ _ (by rintro rfl; rw [hp] at hu; cases hu)]; exact h.unreg u hu
    allND := by
      split
      · exact h.allND
      · rename_i hin
        exact nodup_snoc h.allND fun ha => hin ((h.all t).mp ha)
    all := fun u => by
      show u ∈ (if s.inAll t = true then s.allOrder else s.allOrder ++ [t]) ↔ upd s.inAll t true u = true
      by_cases hut : u = t
      · subst hut; rw [upd_same]; split
        · rename_i hin; simpa [h.all u] using hin
        · simp
      · rw [upd_other _ _ hut, ← h.all u]; split <;> simp [hut] }

theorem Tree.stopped {s : State} (h : Tree s) {st : Nat → Bool} (hm : ∀ x, s.stopped x = true → st x = true) :
    Tree { s with stopped := st } :=
  { h with callOK := fun u => (h.callOK u).mono (hst := hm) }

theorem tree_stepStop {s s' : State} {t : Nat} {w w0 : List SAct} {k : List SAct → Call} {l : Label} (h : Tree s)
    (hs : stepStop s t w k = some (s', l)) {p : Phase} (hph : s.phase t = p)
    (hc : s.call t = k w0) (hk : ∀ w w', CallOK s t (k w) → CallOK s t (k w') := by exact fun _ _ hh => hh)
    (hj : ∀ w, (k w).jwork = none := by exact fun _ => rfl)
    (hsp : ∀ w x, k w ≠ .spawn x := by exact nofun) (hf2 : ∀ cs, p = .fin2 cs → k = .stopping := by exact nofun) : Tree s' := by
  obtain ⟨w', ps, rfl, _⟩ := stepStop_eq hs
  exact h.call_update hph hc _ (hk w0 w' (hc ▸ h.callOK t)) (fun _ _ _ _ hw => by rw [hj] at hw; cases hw)
    (fun x hx => absurd hx (hsp w0 x)) (fun cs hp => ⟨w', by rw [hf2 cs hp]⟩)

theorem tree_stepJoin {s s' : State} {t : Nat} {top : List Nat} {w : List JAct} {tl : Option Nat} {raised : List Nat}
    {all : Bool} {k : List JAct → List Nat → Call} {l : Label} (h : Tree s)
    (hs : stepJoin s t top w tl raised all k = some (s', l)) {p : Phase} (hph : s.phase t = p)
    (hc : s.call t = k w raised) (hk : ∀ w r, (k w r).jwork = some (top, w, tl, r) := by exact fun _ _ => rfl)
    (hok : ∀ w r w' r', CallOK s t (k w r) → CallOK s t (k w' r') := by exact fun _ _ _ _ hh => hh)
    (hsp : ∀ w r x, k w r ≠ .spawn x := by exact nofun) (hf2 : ∀ cs, p ≠ .fin2 cs := by exact nofun) : Tree s' := by
  have hw := h.jw t top w tl raised (by rw [hc, hk])
  have key : ∀ w' r' jn, (∀ a, a ∈ w' → Under s.everChild top a.tgt) → Tree { s with call := upd s.call t (k w' r'), joiner := jn } :=
    fun w' r' jn hsub => h.call_update hph hc _ (hok w raised w' r' (hc ▸ h.callOK t))
      (fun top' work' tl' raised' hh => by rw [hk] at hh; cases hh; exact hsub)
      (fun x hx => absurd hx (hsp w raised x)) (fun cs hp => absurd hp (hf2 cs))
  unfold stepJoin at hs
  cases w with
  | nil => cases hs
  | cons a r =>
    have hr : ∀ b, b ∈ r → Under s.everChild top b.tgt := fun b hb => hw b (List.mem_cons_of_mem _ hb)
    cases a with
    | start u =>
      cases hs
      refine key _ _ _ fun a ha => ?_
      have hu : Under s.everChild top u := hw (.start u) (List.mem_cons_self ..)
      simp only [List.mem_append, List.mem_map, List.mem_cons, List.not_mem_nil, or_false] at ha
      rcases ha with (⟨c, hc1, rfl⟩ | h1) | h1
      · exact hu.child (h.sub u c hc1)
      · rcases h1 with rfl | rfl | rfl | rfl <;> exact hu
      · exact hr a h1
    | mark u | finish u cs => cases hs; exact key _ _ _ hr
    | wait u =>
      simp only at hs
      split at hs
      · cases hs; exact key _ _ _ hr
      · split at hs
        · cases hs; exact key _ _ _ fun a ha => hr a (List.mem_filter.mp ha).1
        · cases hs
    | unreg u => cases hs; exact (key _ _ _ hr).erase _ u

theorem under_starts {ev : Nat → List Nat} {c' : Call} {top : List Nat} {tl : Option Nat}
    (hc : c'.jwork = some (top, top.map .start, tl, [])) :
    ∀ top' work tl' raised, c'.jwork = some (top', work, tl', raised) → ∀ a, a ∈ work → Under ev top' a.tgt := by
  intro top' work tl' raised hw a ha
  rw [hc] at hw; cases hw
  obtain ⟨c, hc1, rfl⟩ := List.mem_map.mp ha
  exact .top hc1

theorem Tree.reg {s : State} (hi : Inv s) (h : Tree s) {t c : Nat} (hph : s.phase t = .running) (hc : s.call t = .spawn c)
    (hnin : ¬(c ∈ s.children t ∨ s.orphan c = true)) :
    Tree { s with children := upd s.children t (s.children t ++ [c]), everChild := upd s.everChild t (s.everChild t ++ [c]) } := by
  have hold : ∀ {f : Nat → List Nat} {p x}, x ∈ f p → x ∈ upd f t (f t ++ [c]) p := fun hx => mem_upd_snoc.mpr (Or.inl hx)
  have h3 : s.parent c = t ∧ t < c := (show CallOK s t (.spawn c) from hc ▸ h.callOK t)
    (by cases ho : s.orphan c; rfl; exact absurd (Or.inr ho) hnin)
  exact { h with
    callOK := fun u => by
      by_cases hu : u = t
      · subst hu; rw [hc]; exact fun _ => h3
      · exact (h.callOK u).mono (hch := fun x hx => (mem_upd_snoc.mp hx).resolve_right fun e => hu e.1)
          (hev := fun x hx => (mem_upd_snoc.mp hx).resolve_right fun e => hu e.1)
    jw := fun u top work tl raised hw a ha => (h.jw u top work tl raised hw a ha).mono fun _ _ => hold
    par := fun x hx hp ho => hold (h.par x hx hp ho)
    sub := fun p x hx => mem_upd_snoc.mpr ((mem_upd_snoc.mp hx).imp_left (h.sub p x))
    lt := fun p x hx => by
      rcases mem_upd_snoc.mp hx with h1 | ⟨rfl, rfl⟩
      · exact h.lt p x h1
      · exact ⟨h3.2, (hi.spawnC p x hc).2⟩
    live := fun p x hx => by
      rcases mem_upd_snoc.mp hx with h1 | ⟨rfl, rfl⟩
      · exact h.live p x h1
      · rw [hph]; nofun
    unborn := fun p x hx hp => by
      rcases mem_upd_snoc.mp hx with h1 | ⟨rfl, rfl⟩
      · exact h.unborn p x h1 hp
      · exact hc
    nodup := fun p => by
      show (upd s.children t _ p).Nodup
      by_cases hp : p = t
      · subst hp; rw [upd_same]; exact nodup_snoc (h.nodup p) fun ha => hnin (Or.inl ha)
      · rw [upd_other _ _ hp]; exact h.nodup p
    finC := fun u cs hu x hx => hold (h.finC u cs hu x hx) }

theorem tree_step {s s' : State} {t : Nat} {l : Label} (hi : Inv s) (h : Tree s) (hs : step s t = some (s', l)) : Tree s' := by
  have hcall : ∀ {c}, s.call t = c → CallOK s t c := fun hc => hc ▸ h.callOK t
  unfold step at hs
  cases hph : s.phase t <;> rw [hph] at hs <;> simp only at hs
  case absent | dead => cases hs
  case created =>
    cases hs
    exact (h.phase_update hph .running).add
      (by show (upd s.phase t _ t).unregistered = _; rw [upd_same]; rfl)
  case peek => cases hs; exact h.phase_update hph .fin1
  case fin1 =>
    cases hs
    exact (h.call_update (ps := s.pstop) (jn := s.joiner) hph rfl (.stopping ((s.children t).map .visit))
      (hsp := fun x hx => absurd (hi.spawnR t (by rw [hx]; rfl)) (by rw [hph]; nofun))).phase_update
      hph (.fin2 (s.children t)) (hC := fun cs hq c hc => by cases hq; exact h.sub t c hc) (h2 := fun cs _ => ⟨_, upd_same ..⟩)
  case fin2 cs =>
    split at hs
    · rename_i hc
      cases hs
      exact (h.phase_update hph (.fin3 cs) (hC := fun cs' hq => by cases hq; exact h.finC t cs (by rw [hph]; rfl))).call_update
        (upd_same ..) hc (.joining cs (cs.map .start) none [] true) (hjw := under_starts rfl)
    · rename_i hc
      exact tree_stepStop h hs hph hc (hf2 := fun _ _ => rfl)
    · cases hs
  case fin3 cs =>
    split at hs
    · rename_i hc
      cases hs
      exact (h.phase_update hph (.fin4 cs)).call_update (upd_same ..) hc (.idle .done)
    · rename_i hc
      exact tree_stepJoin h hs hph hc
    · cases hs
  case fin4 cs =>
    cases hs
    exact (h.shrink t (l := []) nofun .nil).phase_update hph (.fin5 cs)
  case fin5 cs =>
    cases hs
    exact (h.del t).phase_update hph (.fin6 cs) (hU := fun _ => upd_same ..)
  case fin6 =>
    cases hs
    exact (h.stopped (st := upd s.stopped t true) fun x hx => upd_true t hx).phase_update hph .linger
      (hU := fun _ => h.unreg t (by rw [hph]; rfl))
  case linger =>
    have hd := h.phase_update (oc := s.outcome) hph .dead (hU := fun _ => h.unreg t (by rw [hph]; rfl))
    split at hs
    · cases hs; exact hd
    · split at hs
      · split at hs
        · cases hs; exact hd
        · cases hs; exact hd.erase _ t
      · cases hs
  case running =>
    cases hc : s.call t <;> simp only [hc] at hs
    case idle => cases hs
    case spawn c =>
      split at hs
      · -- start(): `c` comes to life under the parent it was registered with
        rename_i hin
        cases hs
        have hab := (hi.spawnC t c hc).1
        refine (h.phase_update hab .created (hA := fun _ _ ho => ?_) (hU := fun _ => h.unreg c (by rw [hab]; rfl))).call_update
          (p := upd s.phase c .created t) rfl hc _ (hsp := fun x hx => ?_) (hf2 := fun cs hp => ?_)
        · rw [(hcall hc ho).1]; exact h.sub t c (hin.resolve_right (by rw [ho]; nofun))
        · cases hx; show upd s.phase c _ c ≠ _; rw [upd_same]; nofun
        · rcases upd_eq hp with ⟨_, e⟩ | ⟨_, e⟩
          · cases e
          · rw [hph] at e; cases e
      · rename_i hnin; cases hs; exact h.reg hi hph hc hnin
    case releasing | m0 => cases hs; exact h.call_update hph hc _
    case stopping =>
      split at hs
      · cases hs; exact h.call_update hph hc _
      · exact tree_stepStop h hs hph hc
    case joining | mRJ =>
      split at hs
      · cases hs; exact h.call_update hph hc _
      · exact tree_stepJoin h hs hph hc
    case m1 => cases hs; exact h.call_update hph hc _ (hok := fun _ hx => hx)
    case mS | mRS =>
      split at hs
      · -- `CallOK` says the same of `.mS cs _` and `.mJ cs _ _` (and of `.mRS`, `.mRJ`): the ascription re-types the old call's
        -- assertion as the new one's, by unfolding
        cases hs; exact h.call_update hph hc _ (hcall hc :) (under_starts rfl)
      · exact tree_stepStop h hs hph hc
    case mJ cs w raised =>
      split at hs
      · -- the join phase of MainThread.stop() is over: what is still listed is in the snapshot, and all of that has been waited for
        cases hs
        exact h.call_update hph hc _ (fun c hcm => (hi.ever t c hcm).elim
          (fun h2 => hi.joined_none (t := t) (by rw [hc]; rfl) (hcall hc c h2)) id)
      · exact tree_stepJoin h hs hph hc
    case m2 => cases hs; exact (h.del t).call_update hph hc _ (hcall hc)

/-- handing out a thread id: nobody's facts mention the new id yet -/
theorem Tree.alloc {s : State} (hi : Inv s) (h : Tree s) {pa : Nat → Nat} {orp : Nat → Bool}
    (hpa : ∀ x, x ≠ s.nextId → pa x = s.parent x) (hor : ∀ x, x ≠ s.nextId → orp x = s.orphan x) :
    Tree { s with nextId := s.nextId + 1, parent := pa, orphan := orp } := by
  have hex : ∀ x, s.phase x ≠ .absent → x ≠ s.nextId := fun x hx => Nat.ne_of_lt (lt_nextId hi hx)
  exact { h with
    callOK := fun u => (h.callOK u).mono (hpo := fun y hy => have := Nat.ne_of_lt (hi.spawnC u y hy).2; ⟨hpa y this, hor y this⟩)
    par := fun c hc0 hp (ho : orp c = false) => by
      show c ∈ s.everChild (pa c)
      rw [hpa c (hex c hp)]; exact h.par c hc0 hp (hor c (hex c hp) ▸ ho)
    lt := fun p c hc => ⟨(h.lt p c hc).1, Nat.lt_succ_of_lt (h.lt p c hc).2⟩ }

theorem tree_call {s s' : State} {t : Nat} {op : Op} (hi : Inv s) (h : Tree s) (hc : call s t op = some s') : Tree s' := by
  unfold call at hc
  split at hc
  · rename_i r hph hcl
    cases op with
    | spawn =>
      cases hc
      exact (h.alloc hi (fun x hx => upd_other _ _ hx) (fun _ _ => rfl)).call_update hph hcl _
        (fun _ => ⟨upd_same .., lt_nextId hi (by rw [hph]; nofun)⟩)
    | spawnOrphan =>
      cases hc
      exact (h.alloc hi (fun x hx => upd_other _ _ hx) (fun x hx => upd_other _ _ hx)).call_update hph hcl _
        (fun (ho : upd s.orphan _ true _ = false) => by rw [upd_same] at ho; cases ho)
    | stop u | release u => cases hc; exact h.call_update hph hcl _
    | join u tl => cases hc; exact h.call_update hph hcl _ (hjw := under_starts (top := [u]) rfl)
    | joinAll us tl => cases hc; exact h.call_update hph hcl _ (hjw := under_starts rfl)
    | mainStop =>
      simp only at hc
      split at hc
      · cases hc; exact h.call_update hph hcl _
      · cases hc
    | finish o =>
      simp only at hc
      split at hc
      · cases hc
      · rename_i ht0
        cases hc
        cases o <;> exact h.phase_update hph _ (h0 := fun _ => Or.inr ht0)
  · cases hc

theorem tree_fireTill {s : State} (x : Nat) (h : Tree s) : Tree (fireTill s x) := { h with }

theorem tree_expire {s : State} (t : Nat) (h : Tree s) : Tree (expire s t) := { h with }

theorem reach_tree {s : State} (h : sys.Reach s) : Tree s := by
  refine Sys.Reach.invariant' sys (P := Tree) ?_ ?_ ?_ h
  · rintro s rfl; exact tree_init
  · rintro s s' hs hr (⟨t, op, hc⟩ | ⟨x, rfl⟩ | ⟨t, rfl⟩)
    · exact tree_call (reach_inv hs) hr hc
    · exact tree_fireTill x hr
    · exact tree_expire t hr
  · exact fun s s' t l hs hr hst => tree_step (reach_inv hs) hr hst

end MoThreads.ThreadTree
