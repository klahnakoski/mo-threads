/-
  C19 — Python proxy: each call returns its own remote result, or raises.
  Theorems about M10 (Model/PyProxy.lean, the model of the REPAIRED `_execute` / `_watch_stdout`), for any
  number of calling threads, every interleaving of callers, reader and worker, every result value
  (`Option Nat` codes of JSON values: `none` is null, and nothing distinguishes falsy values), every
  remote error and any number of log lines before an answer.
  The worker is the FIFO one-answer-per-request loop of python_worker.py (assumption recorded in the trusted base).
-/
import MoThreads.Proofs.PyInv
import MoThreads.Proofs.PyRank
namespace MoThreads.PyProxy
open MoThreads

/-- Own answer: whenever a call has returned, its outcome is the one dictated by the worker's answer to
THIS thread's request: the value `v` for `{"out": v}` (any `v`, null and falsy values included), an
exception for `{"err": …}`; never another caller's answer, never a stale slot. -/
theorem C19_returns_own_answer {s : State} (h : sys.Reach s) (t : Nat) (r : Ret) (hr : s.cpc t = .idle r) (hne : r ≠ .none) :
    (∀ v, s.want t = .out v → r = .value v) ∧ (s.want t = .err → r = .raised) ∧ s.want t ≠ .log := by
  have hO := (reach_inv h).own t
  rw [hr] at hO
  obtain hO | hO := hO
  · exact absurd hO hne
  · cases hw : s.want t <;> simp_all [Good]

/-- A value is returned only for an `out` answer carrying exactly that value. -/
theorem C19_value_is_remote_result {s : State} (h : sys.Reach s) (t : Nat) (v : Option Nat) (hr : s.cpc t = .idle (.value v)) :
    s.want t = .out v := by
  obtain ⟨h1, h2, h3⟩ := C19_returns_own_answer h t _ hr (by simp)
  cases hw : s.want t <;> simp_all

/-- The caller raises exactly for an `err` answer. -/
theorem C19_raises_only_for_remote_error {s : State} (h : sys.Reach s) (t : Nat) (hr : s.cpc t = .idle .raised) :
    s.want t = .err := by
  obtain ⟨h1, h2, h3⟩ := C19_returns_own_answer h t _ hr (by simp)
  cases hw : s.want t <;> simp_all

/-- One request in flight: two threads are never both between acquiring and releasing the proxy lock,
so the shared slot (done/response/error) belongs to one caller at a time. -/
theorem C19_one_request_in_flight {s : State} (h : sys.Reach s) (t u : Nat)
    (ht : (s.cpc t).inCrit = true) (hu : (s.cpc u).inCrit = true) : t = u :=
  Option.some.inj (((reach_inv h).mutex t ht).symm.trans ((reach_inv h).mutex u hu))

/-- Every stdout line is classified: the reader never gets stuck on a line it has popped or can pop. -/
theorem C19_every_reply_is_classified (s : State) (x : Reply) (rest : List Reply) (ho : s.outQ = x :: rest) : stepR s ≠ none := by
  unfold stepR
  cases hr : s.rpc <;> simp only
  · rw [ho]; cases x <;> simp
  · simp
  · simp
  · cases s.done <;> simp

theorem stepC_crit {s : State} {t : Nat} (hc : (s.cpc t).inCrit = true) (hn : stepC s t = none) :
    ∃ k, s.cpc t = .c5 k ∧ s.fired k = false := by
  unfold stepC at hn
  cases hp : s.cpc t <;> rw [hp] at hn hc <;> simp_all [CPC.inCrit]

/-- No call blocks forever while the worker is alive (L1): in a state where nobody — caller, reader,
worker — can move, every caller has returned.  So a call can only fail to return by some thread
being starved, never by a lost wake-up, a falsy answer or a wedged lock. -/
theorem C19_no_call_blocks {s : State} (h : sys.Reach s) (hq : sys.Quiescent s) (t : Nat) : ∃ r, s.cpc t = .idle r := by
  have i := reach_inv h
  have hC : ∀ u, (s.cpc u).inCrit = true ∨ (∃ q, s.cpc u = .c0 q) → stepC s u = none := fun u hu => by
    have h2 : ¬ u < 2 := fun h2 => by rw [i.nonCallerIdle u h2] at hu; simp [CPC.inCrit] at hu
    have := hq u
    simpa [sys, step, show u ≠ 0 by omega, show u ≠ 1 by omega] using this
  have hR : stepR s = none := hq 0
  have hW : stepW s = none := hq 1
  -- Nobody holds the lock: its holder would wait at `c5` for a signal not yet fired, and then the stage of its
  -- answer tells who can move: the worker while a line is owed and not yet in stdout, else the reader.
  have hfree : s.lock = none := by
    obtain hl | ⟨u, hl⟩ := Option.eq_none_or_eq_some s.lock
    · exact hl
    exfalso
    have hS := i.slot u hl
    have hcr := inv_lock i hl
    obtain ⟨k, hp, hf⟩ := stepC_crit hcr (hC u (.inl hcr))
    rw [hp] at hS
    obtain ⟨hd, -, -, hS⟩ := hS
    obtain ⟨hw, hi⟩ : s.wpc = .w0 ∧ s.inQ = [] := by
      unfold stepW at hW; cases hw : s.wpc <;> cases hi : s.inQ <;> simp_all
    cases hr : s.rpc <;> rw [hr] at hS
    · simp only [owed, hw, hi, hf, List.flatMap_nil, List.append_nil] at hS
      obtain ⟨ho | ho, -⟩ | ⟨-, hS, -⟩ := hS
      · exact C19_every_reply_is_classified s _ _ ho hR
      · exact C19_every_reply_is_classified s _ _ ho hR
      · cases hS
    all_goals simp [stepR, hr, hd] at hR
  cases hp : s.cpc t with
  | idle r => exact ⟨r, rfl⟩
  | c0 q => have := hC t (.inr ⟨q, hp⟩); simp [stepC, hp, hfree] at this
  | _ => have := i.mutex t (by rw [hp]; rfl); rw [hfree] at this; cases this

/-! ### the hypotheses are satisfiable: a concrete two-caller run -/

def runSched (s : State) : List Nat → Option State
  | [] => some s
  | t :: ts => match step s t with
    | some (s', _) => runSched s' ts
    | none => none

theorem reach_runSched {s s' : State} (ts : List Nat) (h : sys.Reach s) (hr : runSched s ts = some s') : sys.Reach s' := by
  induction ts generalizing s with
  | nil => cases hr; exact h
  | cons t ts ih =>
    rw [runSched] at hr
    split at hr
    · next hst => exact ih (h.step hst) hr
    · cases hr

theorem some_getD_of_isSome {α : Type} (o : Option α) (d : α) (h : o.isSome = true) : o = some (o.getD d) := by
  cases o <;> simp_all

/-- thread 2 asks for a null result (with a log line before it), thread 3's call fails remotely;
3 gets the lock first and 2 queues behind it -/
def demoSched : List Nat := [3, 3, 3, 3, 3, 1, 1, 0, 0, 0, 3, 3, 3, 3, 3, 3, 3, 2, 2, 2, 2, 2, 1, 1, 0, 0, 0, 0, 2, 2, 2, 2, 2, 2, 2]
def demo1 : Option State := call init 2 (.out none) true
def demo2 : Option State := call (demo1.getD init) 3 .err false
def demo3 : Option State := runSched (demo2.getD init) demoSched

example : ∃ s, sys.Reach s ∧ s.cpc 2 = .idle (.value none) ∧ s.cpc 3 = .idle .raised ∧ s.want 2 = .out none ∧ s.want 3 = .err := by
  have h1 := some_getD_of_isSome demo1 init (by decide +kernel)
  have h2 := some_getD_of_isSome demo2 init (by decide +kernel)
  have h3 := some_getD_of_isSome demo3 init (by decide +kernel)
  refine ⟨demo3.getD init, ?_, by decide +kernel⟩
  have r0 : sys.Reach init := Sys.Reach.init rfl
  have r1 : sys.Reach (demo1.getD init) := Sys.Reach.env r0 ⟨2, .out none, true, h1⟩
  have r2 : sys.Reach (demo2.getD init) := Sys.Reach.env r1 ⟨3, .err, false, h2⟩
  exact reach_runSched demoSched r2 h3

/-- the premise of `C19_no_call_blocks` is met by the initial state (and by every state in which all calls have returned) -/
example : sys.Reach init ∧ sys.Quiescent init := by
  refine ⟨Sys.Reach.init rfl, fun t => ?_⟩
  show step init t = none
  unfold step
  split
  · rfl
  · split
    · rfl
    · simp [stepC, init]

/-- L2: with no new calls, the callers, the stdout reader and the worker together take at most `rank N s` steps,
under any scheduler (every request and reply line consumed pays for the steps it causes) … -/
theorem C19_runs_terminate {N : Nat} {s s' : State} {tr : List (Nat × Label)} (hb : Below N s) (r : sys.Run s tr s') :
    tr.length ≤ rank N s := by
  have := run_length_le_rank hb r; omega

/-- … and when such a run comes to rest every call has returned (to its own caller: `C19_returns_own_answer`). -/
theorem C19_every_call_returns {N : Nat} {s s' : State} {tr : List (Nat × Label)} (h : sys.Reach s) (hb : Below N s)
    (r : sys.Run s tr s') : tr.length ≤ rank N s ∧ (sys.Quiescent s' → ∀ t, ∃ r, s'.cpc t = .idle r) :=
  ⟨C19_runs_terminate hb r, fun hq t => C19_no_call_blocks (h.run sys r) hq t⟩

end MoThreads.PyProxy
