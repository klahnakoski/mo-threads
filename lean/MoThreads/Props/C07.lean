/-
  C07 — Queue: linearizable FIFO, every value delivered exactly once.
  Theorems about M4 (Model/Queue.lean).  Every deque mutation is one atomic step of the thread that
  holds the queue's mutex during its own call, i.e. a linearisation point inside the call's interval;
  the theorems below say that the sequence of these points is a legal sequential FIFO history.
  Wake-ups are arbitrary (environment `signal`), so nothing here depends on the Lock's baton discipline.
-/
import MoThreads.Proofs.QueueInv
namespace MoThreads.Queue
open MoThreads

/-- Mutations happen only while holding the mutex, and at most one thread holds it: operations take
effect one at a time. -/
theorem C07_one_at_a_time {s : State} (h : sys.Reach s) (t u : Nat)
    (ht : (s.pc t).holds = true) (hu : (s.pc u).holds = true) : t = u :=
  have i := reach_inv h
  Option.some.inj (((i.excl t).mp ht).symm.trans ((i.excl u).mp hu))

/-- FIFO refinement: as long as nobody sneaks values to the front, (initial contents ++ everything
appended so far) = (everything taken out so far, in the order taken) ++ (current contents).
So values leave in exactly the order they were appended, each at most once, none lost. -/
theorem C07_fifo {s : State} (h : sys.Reach s) (hp : s.pushed = []) :
    s.dq0 ++ s.added = s.removed ++ s.dq := (reach_inv h).hist.1 hp

/-- In general (with push): conservation of every value's multiplicity — nothing is duplicated or lost. -/
theorem C07_conservation {s : State} (h : sys.Reach s) (v : Nat) :
    s.dq0.count v + s.added.count v + s.pushed.count v = s.removed.count v + s.dq.count v :=
  (reach_inv h).hist.2 v

/-- Every value handed out is the head of the queue at that instant (pop, pop_one). -/
theorem C07_pop_takes_head {s s' : State} {t v : Nat} (hs : step s t = some (s', .popleft v)) :
    ∃ rest, s.dq = v :: rest ∧ s'.dq = rest := by
  -- every other pc emits another label
  cases hp : s.pc t <;>
    simp only [step, hp, acquire, Option.ite_none_right_eq_some, Option.some.injEq, Prod.mk.injEq, reduceCtorEq, and_false] at hs
  case pPop | oPop => split at hs <;> cases hs; exact ⟨_, ‹_›, rfl⟩
  case sAct a _ =>
    rcases a with _ | _ | _ | _ <;> simp only [Option.some.injEq, Prod.mk.injEq, reduceCtorEq, and_false] at hs
    split at hs <;> cases hs

/-- pop(till) returns None only on the timed-out path, after its till fired (or close, which yields
the stop marker instead) … -/
theorem C07_pop_none_only_after_till {s : State} (h : sys.Reach s) (t : Nat) (tl : Option Nat)
    (hp : s.pc t = .pT tl) : s.closed = true ∨ tillOn s tl = true :=
  (reach_inv h).ok hp rfl

/-- … and that path leaves the contents untouched: the step that decides None/STOP changes nothing. -/
theorem C07_pop_none_untouched {s s' : State} {t : Nat} {tl : Option Nat} {l : Label} (hp : s.pc t = .pT tl)
    (hs : step s t = some (s', l)) : s'.dq = s.dq ∧ s'.removed = s.removed ∧
      s'.pc t = .sRel (if s.closed then .stop else .nothing) := by
  step_at hp hs; cases hs; exact ⟨rfl, rfl, if_pos rfl⟩

/-- a pop never finds an empty deque at its popleft -/
theorem C07_popleft_enabled {s : State} (h : sys.Reach s) (t : Nat) (hp : s.pc t = .pPop ∨ s.pc t = .oPop) :
    s.dq ≠ [] := by
  rcases hp with hp | hp <;> exact (reach_inv h).ok hp rfl

/-- Non-vacuity: producer t0 adds 7 then 8, consumer t1 pops twice: gets 7 then 8. -/
def demo : Option State := do
  let run (s : State) (ts : List Nat) : Option State := ts.foldlM (fun s t => (step s t).map (·.1)) s
  let s ← call (init 2 false true []) 0 (.add 7 none false)
  let s ← run s [0, 0, 0, 0, 0, 0]
  let s ← call s 0 (.add 8 none false)
  let s ← run s [0, 0, 0, 0, 0, 0]
  let s ← call s 1 (.pop none)
  let s ← run s [1, 1, 1, 1]
  let s ← call s 1 (.pop none)
  run s [1, 1, 1, 1]

example : (demo.map fun s => (s.removed, s.dq, s.pc 1, s.added)) = some ([7, 8], [], .idle (.val 8), [7, 8]) := by decide

end MoThreads.Queue
