/-
  C02 — Signal.then: every callback runs exactly once, only after trigger.
  Theorems about M1.  `k` ranges over registration ids (one per then() call); `raises` is arbitrary,
  so everything below holds for every subset of raising callbacks.
-/
import MoThreads.Props.C01
namespace MoThreads.SignalCore
open MoThreads

/-- Never twice: in every reachable state callback `k` has run at most once. -/
theorem C02_at_most_once {s : State} (h : sys.Reach s) (k : Nat) : s.ran k ≤ 1 := by
  have := ((reach_inv h).reg k).ranLoc; rw [this]; split <;> omega

/-- Only when true: if `k` has run, the flag is true … -/
theorem C02_only_when_true {s : State} (h : sys.Reach s) (k : Nat) (hr : 1 ≤ s.ran k) : s.go = true := by
  have i := reach_inv h
  have := (i.reg k).ranLoc
  by_cases hh : (s.loc k).hasRun = true
  · exact (i.reg k).ranGo (Or.inl hh)
  · simp [hh] at this; omega

/-- … and the very step that invokes the callback is taken in a state whose flag is already true. -/
theorem C02_callback_step_sees_flag {s s' : State} {t k : Nat} (h : sys.Reach s)
    (hs : step s t = some (s', .cb k)) : s.go = true :=
  ((reach_inv h).thr t).sawGo ((step_frame hs).2.2.2 k rfl)

/-- Exactly once: once the system is quiescent with the flag true, every registration that was made
(`k < nextK`) and not removed while the flag was false has run exactly once — whatever the
interleaving of then()/remove_then()/go()/wait() and whichever callbacks raise. -/
theorem C02_exactly_once {s : State} (h : sys.Reach s) (hq : sys.Quiescent s) (hg : s.go = true)
    (k : Nat) (hk : k < s.nextK) (hrem : s.removed k = false) : s.ran k = 1 := by
  have i := reach_inv h
  have iw := i.win; rw [State.winPC, quiescent_no_winner h hq] at iw
  have held : ∀ t e, (s.loc k).heldBy ≠ some (t, e) := fun t e hl => by
    obtain ⟨r, hr⟩ := C01_quiescent_all_returned h hq hg t
    have := ((i.thr t).own k e).mpr hl; rw [hr] at this; cases this
  have hloc : s.loc k = .done := by
    cases hl : s.loc k with
    | unborn => have := ((i.reg k).fresh.mpr (by rw [hl]; rfl)); omega
    | inThen t => exact absurd (by rw [hl]; rfl) (held t false)
    | queued =>
      have hm := (i.reg k).locQ.mpr (by rw [hl]; rfl)
      rw [iw.liveJ hg rfl] at hm; cases hm
    | detached => cases (iw.locD k).mp (by rw [hl]; rfl)
    | erring t => exact absurd (by rw [hl]; rfl) (held t true)
    | done => rfl
    | removed => have := (i.reg k).remLoc.mpr (by rw [hl]; rfl); rw [hrem] at this; cases this
  have := (i.reg k).ranLoc; rw [hloc] at this; exact this

/-- While the flag is still false a registered callback stays queued (it is not lost), and has not run. -/
theorem C02_pending_until_trigger {s : State} (h : sys.Reach s) (k : Nat) (hq : s.loc k = .queued) :
    k ∈ lst s.jobs ∧ s.ran k = 0 := by
  have r := (reach_inv h).reg k; rw [hq] at r
  exact ⟨r.locQ.mpr rfl, r.ranLoc⟩

/-- A callback removed before the trigger never runs: `removed k` is permanent and implies `ran k = 0`. -/
theorem C02_removed_never_runs {s : State} (h : sys.Reach s) (k : Nat) (hr : s.removed k = true) :
    s.ran k = 0 := by
  have r := (reach_inv h).reg k
  cases hl : s.loc k <;> rw [hl] at r <;> first | exact r.ranLoc | cases r.remLoc.mp hr

theorem C02_removed_is_permanent {s s' : State} {t : Nat} {l : Label} (hs : step s t = some (s', l))
    (k : Nat) (hr : s.removed k = true) : s'.removed k = true :=
  (step_frame hs).2.2.1 k hr

/-- remove_then only deletes while the flag is false and under the lock (so it cannot race a run). -/
theorem C02_remove_only_before_trigger {s : State} (h : sys.Reach s) (t k : Nat) (hp : s.pc t = .r5 k) :
    s.go = false ∧ s.lock = some t ∧ k ∈ lst s.jobs := by
  have ht := (reach_inv h).thr t; rw [hp] at ht
  exact ⟨ht.preSet rfl, ht.mutex.mp rfl, ht.inJ k rfl⟩

/-- A raising callback is isolated: its error handler runs exactly when it ran and raises (never more
than once), for every `raises`; all other theorems of C01/C02 are independent of `raises`. -/
theorem C02_error_handler_at_most_once {s : State} (h : sys.Reach s) (k : Nat) :
    s.errs k ≤ s.ran k ∧ (s.errs k = 1 → s.raises k = true) := by
  have i := reach_inv h
  have h1 := (i.reg k).errLoc
  have h2 := (i.reg k).ranLoc
  constructor
  · rw [h1, h2]; cases s.loc k <;> simp [Loc.isDone, Loc.hasRun] <;> split <;> omega
  · intro he; rw [h1] at he; split at he
    · rename_i hh; exact hh.2
    · omega

theorem C02_raise_isolated {s : State} (h : sys.Reach s) (hq : sys.Quiescent s) (hg : s.go = true)
    (k : Nat) : s.errs k = if s.raises k = true then s.ran k else 0 := by
  have i := reach_inv h
  have h1 := (i.reg k).errLoc
  have h2 := (i.reg k).ranLoc
  have hne : ∀ t, s.loc k ≠ .erring t := by
    intro t hl
    obtain ⟨r, hr⟩ := C01_quiescent_all_returned h hq hg t
    have := ((i.thr t).own k true).mpr (by rw [hl]; rfl); rw [hr] at this; cases this
  cases hl : s.loc k <;> simp_all [Loc.hasRun, Loc.isDone]

/-- Waiters first: when the publishing go() invokes a callback, every waiter that had registered
has already been released (stoppers are released before any callback runs, so a raising or slow
callback cannot keep a waiter parked). -/
theorem C02_waiters_released_before_callbacks {s : State} (h : sys.Reach s) (g : Nat) (js : List Nat)
    (hp : s.pc g = .g10 js ∨ ∃ k, s.pc g = .g11 k js) (t x : Nat)
    (hw : s.pc t = .w6 x ∨ s.pc t = .w7 x) : s.unlocked x = true := by
  have i := reach_inv h
  have hgo : s.go = true := (i.thr g).sawGo (by rcases hp with hp | ⟨k, hp⟩ <;> rw [hp] <;> rfl)
  have ⟨_, iw⟩ := i.winAt (t := g) rfl (by rcases hp with hp | ⟨k, hp⟩ <;> rw [hp] <;> rfl)
  have hpre : (s.pc g).preDetachW = false ∧ (s.pc g).pendingS = [] := by
    rcases hp with hp | ⟨k, hp⟩ <;> rw [hp] <;> exact ⟨rfl, rfl⟩
  rcases iw.noLost t x (by rcases hw with hw | hw <;> rw [hw] <;> rfl) with h1 | h1 | h1
  · exact h1
  · rw [iw.liveW hgo hpre.1] at h1; cases h1
  · rw [hpre.2] at h1; cases h1

/-- Non-vacuity: t0 registers callback 0 (which raises), t1 registers callback 1, t2 triggers;
both ran once, the handler of 0 ran once, flag true, everybody returned. -/
def demoThen : Option State := do
  let s ← call (init false (fun k => k == 0)) 0 .then_
  let s ← call s 1 .then_
  let s ← call s 2 .go
  let run (s : State) (ts : List Nat) : Option State := ts.foldlM (fun s t => (step s t).map (·.1)) s
  run s ([0, 0, 0, 0, 0] ++ [1, 1, 1, 1, 1] ++ List.replicate 12 2)

example : (demoThen.map fun s => (s.go, s.ran 0, s.ran 1, s.errs 0, s.errs 1, s.pc 2)) =
    some (true, 1, 1, 1, 0, .idle .goSelf) := by decide

/-- every callback registered and not removed before the trigger has run exactly once when such a run ends -/
theorem C02_every_callback_runs {N : Nat} {s s' : State} {tr : List (Nat × Label)} (h : sys.Reach s) (hb : Below N s)
    (hg : s.go = true) (r : sys.Run s tr s') :
    tr.length ≤ rank N s ∧ (sys.Quiescent s' → ∀ k, k < s'.nextK → s'.removed k = false → s'.ran k = 1) :=
  ⟨C01_runs_terminate hb r, fun hq k hk hr => C02_exactly_once (h.run sys r) hq (run_go_mono r hg) k hk hr⟩


end MoThreads.SignalCore
