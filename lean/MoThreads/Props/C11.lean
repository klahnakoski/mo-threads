/-
  C11 — Threads: stop() reaches every descendant; main stop leaves nothing running.
  Theorems about M5 (the model of the REPAIRED threads.py: children stay registered until joined).
  Proved: stop() never blocks; it snapshots each visited thread's children under that thread's lock
  and visits every one of them before triggering the thread's own please_stop; a thread stays listed
  under its parent until it has stopped (so a later stop() still reaches it); MainThread.stop() returns
  only after every child of the main thread — hence, by C10, every registered descendant — has stopped,
  and reports failures after having joined all.
  `C11_stop_reaches_every_descendant` / `C11_stop_returned`: when stop(p) returns, every thread that was p or a
  registered descendant of p when the call started has please_stop set or has already stopped — for every
  tree, and for every interleaving with threads that end, are joined and unregistered, or register new
  children while stop() walks (Proofs/TreeStop.lean: the walk keeps every target covered).
-/
import MoThreads.Proofs.TreeStop
import MoThreads.Proofs.TreeReg
namespace MoThreads.ThreadTree
open MoThreads

/-- stop() never blocks: every step of the flattened stop() is enabled. -/
theorem C11_stop_never_blocks {s : State} (t : Nat) (a : SAct) (rest : List SAct) (k : List SAct → Call) :
    (stepStop s t (a :: rest) k).isSome = true := by
  unfold stepStop; cases a <;> simp

/-- Visiting a thread snapshots its children (one locked read) and schedules a visit of every one of
them before the thread's own please_stop is triggered. -/
theorem C11_visit_reaches_children {s s' : State} {t u : Nat} {rest : List SAct} {k : List SAct → Call} {l : Label}
    (hs : stepStop s t (.visit u :: rest) k = some (s', l)) :
    l = .snap u (s.children u) ∧
    s'.call t = k ((s.children u).map .visit ++ [.fire u] ++ rest) ∧ s'.pstop = s.pstop := by
  unfold stepStop at hs; cases hs; simp [upd]

theorem C11_fire_sets_please_stop {s s' : State} {t u : Nat} {rest : List SAct} {k : List SAct → Call} {l : Label}
    (hs : stepStop s t (.fire u :: rest) k = some (s', l)) : s'.pstop u = true ∧ s'.call t = k rest := by
  unfold stepStop at hs; cases hs; simp [upd]

/-- please_stop is never reset. -/
theorem C11_please_stop_permanent {s s' : State} {t u : Nat} {l : Label} (hs : step s t = some (s', l))
    (hp : s.pstop u = true) : s'.pstop u = true := (frame_step hs).1.pst u hp

/-- A thread that has not stopped is still listed under its parent: a stop() issued now on the
parent will find it (this is what the repaired shutdown block guarantees; the pinned tree detached the
list before stopping the children). -/
theorem C11_running_child_is_listed {s : State} (h : sys.Reach s) (p c : Nat) (hc : c ∈ s.everChild p)
    (hr : s.stopped c = false) : c ∈ s.children p := C10_listed_until_stopped h p c hc hr

/-- MainThread.stop(): when its join phase is over every thread that was a child of the main thread
at the snapshot has stopped — and, by C10, so has every registered descendant. -/
theorem C11_main_stop_waits_for_all {s : State} (h : sys.Reach s) (cs raised : List Nat)
    (hc : s.call 0 = .mJ cs [] raised) (c d : Nat) (hcm : c ∈ cs) :
    s.stopped c = true ∧ (Desc s c d → s.stopped d = true) := by
  have hst := (reach_inv h).joined_none (t := 0) (by rw [hc]; rfl) hcm
  exact ⟨hst, C10_descendants_first h c d hst⟩

/-- **Closure of stop().**  Thread `t` calls `stop(p)` in state `s0`; `s1` is any later state (any
interleaving of steps of any threads, API calls and timeouts in between).  Then either the walk is
still under way, or every thread that was `p` or a registered descendant of `p` (through any number of
generations, `Desc` over the ghost registration lists) when the call started has been asked to stop
or has already stopped — even though the tree keeps changing while stop() walks it (children being
joined and unregistered, threads ending, new threads registering). -/
theorem C11_stop_reaches_every_descendant {s0 s1 : State} {t p : Nat} (h0 : sys.Reach s0)
    (hph : s0.phase t = .running) (hc : s0.call t = .stopping [.visit p]) (g : Seg s0 s1) :
    (∃ a work, s1.call t = .stopping (a :: work)) ∨
    (∀ d, d = p ∨ Desc s0 p d → s1.pstop d = true ∨ s1.stopped d = true) := by
  by_cases hw : ∃ a work, s1.call t = .stopping (a :: work)
  · exact Or.inl hw
  · exact Or.inr ((walk_seg h0 hph hc g).done fun a w hcl => hw ⟨a, w, hcl⟩)

/-- … in particular at the moment stop() returns (empty work list) and at any time after it -/
theorem C11_stop_returned {s0 s1 : State} {t p : Nat} (h0 : sys.Reach s0)
    (hph : s0.phase t = .running) (hc : s0.call t = .stopping [.visit p]) (g : Seg s0 s1)
    (hret : s1.call t = .stopping [] ∨ ∃ r, s1.call t = .idle r) (d : Nat) (hd : d = p ∨ Desc s0 p d) :
    s1.pstop d = true ∨ s1.stopped d = true := by
  rcases C11_stop_reaches_every_descendant h0 hph hc g with ⟨a, w, hw⟩ | h
  · rcases hret with hr | ⟨r, hr⟩ <;> (rw [hr] at hw; cases hw)
  · exact h d hd

/-- a thread that is still running (not stopped) when stop() has returned has `please_stop` set -/
theorem C11_running_descendant_is_signalled {s0 s1 : State} {t p : Nat} (h0 : sys.Reach s0)
    (hph : s0.phase t = .running) (hc : s0.call t = .stopping [.visit p]) (g : Seg s0 s1)
    (hret : s1.call t = .stopping []) (d : Nat) (hd : d = p ∨ Desc s0 p d) (hrun : s1.stopped d = false) :
    s1.pstop d = true := by
  rcases C11_stop_returned h0 hph hc g (Or.inl hret) d hd with h | h
  · exact h
  · rw [hrun] at h; cases h

/-! non-vacuity: main spawns t1, t1 spawns t2, t2 spawns t3; main calls stop(t1) while all run -/
def demo11 : Option (State × State) := do
  let s ← call init 0 .spawn
  let s := settle 10 s 0
  let s := settle 10 s 1
  let s ← call s 1 .spawn
  let s := settle 10 s 1
  let s := settle 10 s 2
  let s ← call s 2 .spawn
  let s := settle 10 s 2
  let s := settle 10 s 3
  let s0 ← call s 0 (.stop 1)
  let s1 := settle 6 s0 0          -- visit 1, visit 2, visit 3, fire 3, fire 2, fire 1
  pure (s0, s1)

example : (demo11.map fun q => (q.1.call 0, q.1.everChild 1, q.1.everChild 2, q.2.call 0))
    = some (.stopping [.visit 1], [2], [3], .stopping []) := by
  decide
example : (demo11.map fun q => (q.2.pstop 1, q.2.pstop 2, q.2.pstop 3, q.2.stopped 3)) = some (true, true, true, false) := by
  decide

/-- Every thread that exists descends, through the registration lists, from the main thread or from an orphan (a thread
created with `parent_thread=Null`, registered in `ALL` only). -/
theorem C11_every_thread_has_a_root {s : State} (h : sys.Reach s) (c : Nat) (hc0 : c ≠ 0)
    (hpc : s.phase c ≠ .absent) : Desc s 0 c ∨ ∃ o, s.orphan o = true ∧ (c = o ∨ Desc s o c) := by
  have hr := reach_tree h
  induction c using Nat.strongRecOn with
  | ind c ih =>
    cases hoc : s.orphan c with
    | true => exact Or.inr ⟨c, hoc, Or.inl rfl⟩
    | false =>
      have hmem := hr.par c hc0 hpc hoc
      by_cases hp0 : s.parent c = 0
      · rw [hp0] at hmem; exact Or.inl (.child hmem)
      · rcases ih _ (hr.lt _ _ hmem).1 hp0 (hr.live _ _ hmem) with h1 | ⟨o, ho, h1 | h1⟩
        · exact Or.inl (desc_trans h1 (.child hmem))
        · exact Or.inr ⟨o, ho, Or.inr (by rw [← h1]; exact .child hmem)⟩
        · exact Or.inr ⟨o, ho, Or.inr (desc_trans h1 (.child hmem))⟩

/-- The sweep takes the whole registry: the step that removes the main thread from `ALL` snapshots everything that is
left, and a stop() of each of those threads is scheduled. -/
theorem C11_sweep_snapshot_is_the_registry {s s' : State} {l : Label} (h : sys.Reach s) (cs raised : List Nat)
    (hc : s.call 0 = .m2 cs raised) (hs : step s 0 = some (s', l)) :
    ∃ res, s'.call 0 = .mRS cs raised res (res.map .visit) ∧ ∀ u, u ≠ 0 → s.inAll u = true → u ∈ res := by
  have hr := reach_tree h
  unfold step at hs; rw [hr.main] at hs; simp only [hc] at hs; cases hs
  exact ⟨_, (upd_same s.call 0 _ : upd s.call 0 _ 0 = _), fun u hu hin => (List.mem_erase_of_ne hu).mpr ((hr.all u).mpr hin)⟩

/-- MainThread.stop() leaves nothing behind: when the join of the swept threads is over, every thread that was in the
registry `ALL` at the snapshot has stopped and is out of the registry, and so has every thread that descends from the main
thread (children, their descendants through any number of generations, threads registered while the shutdown was under way);
what is reported (`C12`) comes after all of them have been stopped — a failure in one does not stop the sweep. -/
theorem C11_main_stop_leaves_nothing_registered {s : State} (h : sys.Reach s) (cs raised res raised2 : List Nat)
    (hc : s.call 0 = .mRJ cs raised res [] raised2) :
    (∀ u, u ∈ res → s.stopped u = true ∧ (u ≠ 0 → s.inAll u = false)) ∧
    (∀ c, Desc s 0 c → s.stopped c = true ∧ (c ≠ 0 → s.inAll c = false)) := by
  have hi := reach_inv h
  have hr := reach_tree h
  have unreg : ∀ c, s.stopped c = true → c ≠ 0 → s.inAll c = false := fun c hst _ =>
    hr.unreg c (by rcases Phase.isStopped_iff.mp ((hi.stP c).mp hst) with e | e <;> rw [e] <;> rfl)
  constructor
  · intro u hu
    have hst := hi.joined_none (t := 0) (by rw [hc]; rfl) hu
    exact ⟨hst, unreg u hst⟩
  · intro c hd
    have top : ∀ c1, c1 ∈ s.everChild 0 → s.stopped c1 = true := by have := hr.callOK 0; rwa [hc] at this
    have hst : s.stopped c = true := by
      cases hd with
      | child h1 => exact top c h1
      | step h1 hd' => exact C10_descendants_first h _ _ (top _ h1) hd'
    exact ⟨hst, unreg c hst⟩

/-- non-vacuity: main spawns t1, t1 starts the orphan t2; MainThread.stop() is called while both run; t1 fails; the join
phase ends, the registry sweep finds t2, stops it and joins it; at the end both have stopped, neither is registered any
more, and the failure of t1 is on record (the call returns `allRaised`) -/
def demoMainStop : Option State := do
  let s ← call init 0 .spawn
  let s := settle 10 s 0
  let s := settle 10 s 1
  let s ← call s 1 .spawnOrphan
  let s := settle 10 s 1
  let s := settle 10 s 2
  let s ← call s 0 .mainStop
  let s := settle 40 s 0            -- please_stop, snapshot, stop the children, block joining t1
  let s ← call s 1 (.finish .fail)
  let s := settle 40 s 1
  let s := settle 40 s 0            -- join phase over; sweep: snapshot [t2], stop(t2), block joining t2
  let s ← call s 2 (.finish (.ok 1))
  let s := settle 40 s 2
  pure (settle 3 s 0)

example : (demoMainStop.map fun s => (s.call 0, s.orphan 2, s.pstop 2)) = some (.mRJ [1] [1] [2] [] [], true, true) := by decide
example : (demoMainStop.map fun s => (s.stopped 1, s.stopped 2, s.inAll 1, s.inAll 2)) = some (true, true, false, false) := by decide

example : (demoMainStop.map fun s => (settle 1 s 0).call 0) = some (.idle .allRaised) := by decide

end MoThreads.ThreadTree
