/-
  C10 — Threads: a parent is never 'stopped' before its children.
  Theorems about M5 (Model/ThreadTree.lean, the model of the REPAIRED threads.py): every reachable state of
  every dynamic thread tree, every mix of children that return, raise, are joined early (also with
  timeouts) or are released, every interleaving.  `everChild p` is the ghost list of all threads ever
  registered under p.
-/
import MoThreads.Proofs.TreeMain
namespace MoThreads.ThreadTree
open MoThreads

/-- `stopped` is triggered only by the last step of the thread's own shutdown block. -/
theorem C10_stopped_iff_shutdown_done {s : State} (h : sys.Reach s) (t : Nat) :
    s.stopped t = true ↔ (s.phase t = .linger ∨ s.phase t = .dead) :=
  ((reach_inv h).stP t).trans Phase.isStopped_iff

/-- Children first: when a thread's `stopped` is true, every thread ever registered as its child has stopped. -/
theorem C10_children_first {s : State} (h : sys.Reach s) (p c : Nat) (hs : s.stopped p = true)
    (hc : c ∈ s.everChild p) : s.stopped c = true :=
  have i := reach_inv h
  i.finD p (Phase.isStopped_done ((i.stP p).mp hs)).1 c hc

/-- descendants through any number of generations -/
inductive Desc (s : State) : Nat → Nat → Prop
  | child {p c} : c ∈ s.everChild p → Desc s p c
  | step {p c d} : c ∈ s.everChild p → Desc s c d → Desc s p d

/-- … and transitively: no registered descendant of a stopped thread is still running. -/
theorem C10_descendants_first {s : State} (h : sys.Reach s) (p d : Nat) (hs : s.stopped p = true)
    (hd : Desc s p d) : s.stopped d = true := by
  induction hd with
  | child hc => exact C10_children_first h _ _ hs hc
  | step hc _ ih => exact ih (C10_children_first h _ _ hs hc)

/-- Every registration is recorded: the step that appends a child to `children` also puts it in `everChild`. -/
theorem C10_registration_recorded {s s' : State} {t c : Nat} {l : Label} (hph : s.phase t = .running)
    (hc : s.call t = .spawn c) (hnc : c ∉ s.children t) (hno : s.orphan c = false) (hs : step s t = some (s', l)) :
    l = .reg c t ∧ c ∈ s'.everChild t ∧ c ∈ s'.children t := by
  unfold step at hs; rw [hph] at hs; simp only [hc, hnc, hno, false_or, Bool.false_eq_true, if_false] at hs
  cases hs; simp [upd]

/-- A child is unregistered (by join) only after it has stopped; so while a thread is not stopped it is
still listed under its parent — stop() issued on the parent can reach it. -/
theorem C10_listed_until_stopped {s : State} (h : sys.Reach s) (p c : Nat) (hc : c ∈ s.everChild p)
    (hr : s.stopped c = false) : c ∈ s.children p :=
  ((reach_inv h).ever p c hc).resolve_right (by rw [hr]; nofun)

/-- The shutdown block never blocks except while waiting for a child that has not stopped yet. -/
theorem C10_shutdown_waits_only_for_children {s : State} (h : sys.Reach s) (t : Nat) (cs : List Nat)
    (hph : s.phase t = .fin3 cs) (hq : step s t = none) :
    ∃ u rest raised, s.call t = .joining cs (.wait u :: rest) none raised true ∧ s.stopped u = false := by
  obtain ⟨work, raised, hc⟩ := (reach_inv h).fin3C t cs hph
  unfold step at hq; rw [hph] at hq; simp only [hc] at hq
  cases work with
  | nil => simp at hq
  | cons a rest =>
    obtain ⟨u, rfl, hst, _⟩ := stepJoin_none hq
    exact ⟨u, rest, raised, hc, hst⟩

/-- Non-vacuity: main spawns t1; t1 spawns t2; t2 fails; t1 returns; t1's shutdown block joins t2 and only
then t1 is stopped. -/
def settle : Nat → State → Nat → State
  | 0, s, _ => s
  | fuel + 1, s, t => match step s t with
    | some (s', _) => settle fuel s' t
    | none => s

def demo10 : Option State := do
  let s ← call init 0 .spawn
  let s := settle 10 s 0
  let s := settle 10 s 1            -- t1 registers in ALL, runs
  let s ← call s 1 .spawn
  let s := settle 10 s 1
  let s := settle 10 s 2
  let s ← call s 1 (.finish (.ok 5))
  let s := settle 40 s 1            -- t1's shutdown block: stops t2, blocks joining it
  let blocked := s.stopped 1
  let s ← call s 2 (.finish .fail)
  let s := settle 40 s 2            -- t2 ends
  let s := settle 40 s 1            -- now t1 finishes
  if blocked then none else pure s

example : (demo10.map fun s => (s.stopped 1, s.stopped 2, s.everChild 1, s.outcome 2)) = some (true, true, [2], some .fail) := by
  decide

end MoThreads.ThreadTree
