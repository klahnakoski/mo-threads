/-
  C06 — Lock: no lost notification; monitor loops terminate.
  Theorems about M3.  Thread programs are arbitrary (the environment issues enter/set/wait/exit under
  the monitor discipline); a `wait c` declares the condition `c` the caller re-tests after waking.
-/
import MoThreads.Props.C05
import MoThreads.Proofs.MonitorRank
namespace MoThreads.Monitor
open MoThreads

/-- Every release passes the baton: when __exit__ is about to release, either nobody was waiting or a
waiter has been signalled and has not yet consumed the signal … -/
theorem C06_exit_signals_one {s : State} (h : sys.Reach s) (t : Nat) (hp : s.pc t = .x3) :
    s.waiting = [] ∨ s.hot ≠ [] := (reach_inv h).X t hp

/-- … and when wait() is about to release, either it signalled another waiter, or it is the only
waiter (and its own condition is false). -/
theorem C06_wait_signals_one {s : State} (h : sys.Reach s) (t w : Nat) (c : Cond) (tl : Option Nat)
    (hp : s.pc t = .a5 w c tl) : (s.hot ≠ [] ∨ s.waiting = [w]) ∧ c.holds s.σ = false :=
  ⟨(reach_inv h).A5 t w c tl hp, (reach_inv h).cFalse t c (by simp [hp, PC.waitCond])⟩

/-- The waiter that gets signalled is the oldest one (the list is LIFO-inserted, popped from the end). -/
theorem C06_signals_oldest {s s' : State} {t : Nat} {l : Label} (hp : s.pc t = .x1)
    (hs : step s t = some (s', l)) : ∃ o, s.waiting.getLast? = some o ∧ s'.pc t = .x2 o ∧ s'.waiting = s.waiting.dropLast := by
  step_at hp hs
  cases hg : s.waiting.getLast? with
  | none => rw [hg] at hs; cases hs
  | some o => rw [hg] at hs; cases hs; exact ⟨o, rfl, by simp [State.setPc], rfl⟩

/-- A signalled waiter stays signalled until its owner re-acquires: the signal is not lost. -/
theorem C06_signal_not_lost {s : State} (h : sys.Reach s) (w : Nat) (hw : w ∈ s.hot) :
    s.fired w = true ∧ (s.pc (s.owner w)).parkedOn = some w := (reach_inv h).hotI w hw

/-- No ghost entries: every entry of the waiting list belongs to a thread that is inside wait() on it
(registered, not yet removed).  So a wait() that returned — in particular one that timed out — leaves
nothing behind that could absorb a later notification. -/
theorem C06_no_ghost_entries {s : State} (h : sys.Reach s) (w : Nat) (hw : w ∈ s.waiting) :
    (s.pc (s.owner w)).listedOwn = some w := (reach_inv h).listed w hw

theorem C06_returned_wait_left_nothing {s : State} (h : sys.Reach s) (t : Nat) (r : Ret)
    (hp : s.pc t = .inside r) (w : Nat) (hw : w ∈ s.waiting) : s.owner w ≠ t := by
  intro he
  have := (reach_inv h).listed w hw
  rw [he, hp] at this; simp [PC.listedOwn] at this

/-- The list never holds the same waiter twice. -/
theorem C06_no_duplicates {s : State} (h : sys.Reach s) : s.waiting.Nodup := (reach_inv h).nodupW

/-- wait() returns False only if its timeout signal has fired. -/
theorem C06_false_only_on_timeout {s s' : State} {t w : Nat} {c : Cond} {tl : Option Nat} {l : Label}
    (h : sys.Reach s) (hp : s.pc t = .a6 w c tl) (hs : step s t = some (s', l))
    (hret : s'.pc t = .inside (.waited false)) : tillOn s tl = true := by
  step_at hp hs; cases hs
  simp [State.setPc] at hret
  rcases (reach_inv h).A6 t w c tl hp with h1 | h1
  · simp [h1] at hret
  · exact h1

/-- No lost notification / monitor loops terminate (L1): in every reachable state where nothing can
move and the lock is free, every thread parked in `wait c` has `c` FALSE (and is neither signalled nor
timed out).  Hence once a condition is made true inside the lock, the system cannot come to rest with
its waiter still parked — for any number of waiters, setters, timeouts and any interleaving. -/
theorem C06_no_lost_notification {s : State} (h : sys.Reach s) (hq : sys.Quiescent s)
    (hm : s.mutex = none) (t w : Nat) (c : Cond) (tl : Option Nat) (hp : s.pc t = .parked w c tl) :
    c.holds s.σ = false ∧ s.fired w = false ∧ tillOn s tl = false := by
  have o := reach_outline h
  have a := hp ▸ o.thread t
  have stuck : ∀ {u w c tl}, s.pc u = .parked w c tl → (s.fired w || tillOn s tl) = false := fun {u w c tl} hu => by
    have hst : step s u = none := hq u
    step_at hu hst
    cases hb : (s.fired w || tillOn s tl) with
    | false => rfl
    | true => simp [hb, hm] at hst
  have hdis := stuck hp
  simp only [Bool.or_eq_false_iff] at hdis
  -- so no signal is on its way (its receiver could move), `t`'s waiter is still listed, and the `parked` row of `PC.spec` applies
  have hhot : s.hot = [] := List.eq_nil_iff_forall_not_mem.mpr fun w' hw' => by
    obtain ⟨hf, hpk⟩ := (Inv.of o).hotI w' hw'
    cases hpo : s.pc (s.owner w') <;> rw [hpo] at hpk <;> cases hpk
    have := stuck hpo; simp [hf] at this
  refine ⟨a.spec ?_ hm hhot, hdis⟩
  simpa [hhot, o.sh.handN hm] using a.noLost w rfl

/-- Non-vacuity of the hypotheses of `C06_no_lost_notification`: after t0 parks with condition
σ0 ≥ 1 (false) and nobody else around, the state is quiescent with the lock free. -/
def demoParked : Option State := do
  let s ← call init 0 .enter
  let (s, _) ← step s 0
  let s ← call s 0 (.wait (some (0, 1)) none)
  [0, 0, 0].foldlM (fun s t => (step s t).map (·.1)) s

example : (demoParked.map fun s => (s.mutex, s.pc 0, step s 0 |>.isSome)) =
    some (none, .parked 0 (some (0, 1)) none, false) := by decide

/-- L2: every Lock operation is a bounded number of its own steps (at most 7, plus waiting for the mutex or the
wake-up), so with no new calls and no new timeouts every schedule takes at most `rank N s` steps — the sum of the
remaining steps of the operations in progress; combined with `C06_no_lost_notification`, such a run ends in a
state where no waiter whose condition holds is parked while the lock is free. -/
theorem C06_runs_terminate {N : Nat} {s s' : State} {tr : List (Nat × Label)} (hb : Below N s) (r : sys.Run s tr s') :
    tr.length ≤ rank N s := by
  have := run_length_le_rank hb r; omega

theorem C06_waiters_resume {N : Nat} {s s' : State} {tr : List (Nat × Label)} (h : sys.Reach s) (hb : Below N s)
    (r : sys.Run s tr s') :
    tr.length ≤ rank N s ∧
      (sys.Quiescent s' → s'.mutex = none → ∀ t w c tl, s'.pc t = .parked w c tl → c.holds s'.σ = false) :=
  ⟨C06_runs_terminate hb r, fun hq hm t w c tl hp => (C06_no_lost_notification (h.run sys r) hq hm t w c tl hp).1⟩

end MoThreads.Monitor
