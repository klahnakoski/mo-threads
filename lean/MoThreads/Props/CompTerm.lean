/-
  C03 / C04 / C15 — L2 for composites (M2): expressions and go() cascades finish, so the quiescent points at which the
  equivalences and the no-leak theorem are stated are reached after finitely many steps of any scheduler.
-/
import MoThreads.Props.C04
import MoThreads.Props.C15
import MoThreads.Proofs.CompRank
namespace MoThreads.Composite
open MoThreads

/-- L2: with no new operation, no timer firing and no collection, every schedule takes at most `rank s` steps, and where
nobody can move every thread has finished what it was doing or is parked in `wait()` on a signal that is still false. -/
theorem C03_runs_terminate {s s' : State} {tr : List (Nat × Label)} (h : sys.Reach s) (r : sys.Run s tr s') :
    tr.length ≤ rank s ∧
    (sys.Quiescent s' → ∀ t, t < NT → s'.todo t = [] ∨ ∃ c rest, s'.todo t = .waitS c :: rest ∧ (s'.sigs c).go = false) := by
  have := run_length_le_rank (reach_invL h) r
  exact ⟨by omega, quiescent_todo⟩

/-- no thread is parked in a wait -/
def NoWaiter (s : State) : Prop := ∀ t, t < NT → ∀ c rest, s.todo t ≠ .waitS c :: rest

theorem quiet_of_quiescent {s : State} (hq : sys.Quiescent s) (hw : NoWaiter s) : Quiet s := by
  intro t ht
  rcases quiescent_todo hq t ht with h | ⟨c, rest, h, _⟩
  · exact h
  · exact absurd h (hw t ht c rest)

/-- … so, after finitely many steps, an AND composite is true exactly when both operands are (C04_and_iff_operands at the
state where the cascade has come to rest) -/
theorem C04_and_settles {s s' : State} {tr : List (Nat × Label)} (h : sys.Reach s) (r : sys.Run s tr s')
    (hq : sys.Quiescent s') (hw : NoWaiter s') (n : Nat) (hn : n < s'.nAnd) (hdir : (s'.sigs (s'.ands n).target).direct = false) :
    tr.length ≤ rank s ∧
    ∃ x y, (s'.ands n).deps0 = [x, y] ∧ ((s'.sigs (s'.ands n).target).go = true ↔ ((s'.sigs x).go = true ∧ (s'.sigs y).go = true)) :=
  ⟨(C03_runs_terminate h r).1, C04_and_iff_operands (h.run sys r) (quiet_of_quiescent hq hw) n hn hdir⟩

/-- … and no long-lived signal is left holding a hook of a composite that is gone or triggered -/
theorem C15_no_leak_once_settled {s s' : State} {tr : List (Nat × Label)} (h : sys.Reach s) (r : sys.Run s tr s')
    (hq : sys.Quiescent s') (hw : NoWaiter s') (z o i : Nat) (hj : Job.orHook o i ∈ (s'.sigs z).jobs) :
    tr.length ≤ rank s ∧
    (s'.sigs (s'.ors o).target).alive = true ∧ (s'.sigs (s'.ors o).target).go = false ∧ (s'.ors o).deps0[i]? = some z := by
  have := C15_no_leaked_hook (h.run sys r) (quiet_of_quiescent hq hw) z o i hj
  exact ⟨(C03_runs_terminate h r).1, this.1, this.2.1, this.2.2.1⟩

/-! non-vacuity: `c = a | b` under construction (rank 15), built (7: the two hooks and the cleanup now wait on a, b and c), `a.go()`
called (8: the flag, the hook, c.go(), the cleanup with its two removals, …), and the cascade run to its end in 6 steps (0): nobody
can move, nobody is parked -/
example : rank (demoO1.getD init) = 15 ∧ rank (demoO2.getD init) = 7 ∧ rank (demoO3.getD init) = 8 ∧ rank (demoO4.getD init) = 0 := by
  decide +kernel

example : sys.Quiescent (demoO4.getD init) ∧ NoWaiter (demoO4.getD init) := by
  have hall : ∀ t, t < NT → (demoO4.getD init).todo t = [] := by decide +kernel
  constructor
  · intro t
    show step (demoO4.getD init) t = none
    unfold step
    split
    · rename_i ht; rw [hall t ht]
    · rfl
  · intro t ht c rest hh; rw [hall t ht] at hh; cases hh

end MoThreads.Composite
