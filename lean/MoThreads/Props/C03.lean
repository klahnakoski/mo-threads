/-
  C03 — Signal OR: the composite is true exactly when some operand is.
  Theorems about M2 (Model/Composite.lean), for every history of building composites (nested, shared
  operands), dropping references, triggering and waiting, and every interleaving of those operations at the
  granularity of one Signal operation (then / go / remove_then are the atomic operations of M1, C01-C02).

  Proved for every reachable state: the operands of a live, untriggered OR composite stay alive (so a Till
  inside `a | Till(..)` is not lost) and cannot be collected; a composite that was not triggered directly is
  true only if some operand is (at every moment), and at every quiescent point a live composite is true
  exactly when some operand is — whether the operands were triggered before, during or after it was built.
  Constants (None / True / False / DONE / NEVER) and the release of waiters (C01 on the composite, an ordinary
  Signal) are checked on the real operators by monitors.
-/
import MoThreads.Proofs.CompIff
namespace MoThreads.Composite
open MoThreads

/-- Operands are kept alive: every operand of a live, untriggered OR composite is itself alive. -/
theorem C03_operands_kept_alive {s : State} (h : sys.Reach s) (o : Nat) (ho : o < s.nOr)
    (hal : (s.sigs (s.ors o).target).alive = true) (hgo : (s.sigs (s.ors o).target).go = false) :
    ∀ d, d ∈ (s.ors o).deps0 → d < s.nSig ∧ (s.sigs d).alive = true :=
  (reach_invL h).Lo o ho hal hgo

/-- The operand list of the OrSignal object is emptied only once the composite has been triggered or has died. -/
theorem C03_operand_list_intact {s : State} (h : sys.Reach s) (o : Nat) (ho : o < s.nOr)
    (hal : (s.sigs (s.ors o).target).alive = true) (hgo : (s.sigs (s.ors o).target).go = false) :
    (s.ors o).deps = (s.ors o).deps0 :=
  (reach_invL h).or_intact ho hal hgo

theorem C03_operand_not_collectable {s : State} (h : sys.Reach s) (o : Nat) (ho : o < s.nOr)
    (hal : (s.sigs (s.ors o).target).alive = true) (hgo : (s.sigs (s.ors o).target).go = false)
    (d : Nat) (hd : d ∈ (s.ors o).deps0) : collectable s d = false :=
  Bool.eq_false_iff.mpr fun hc => (reach_invL h).or_not_collectable ho hal hgo hd (collectable_spec hc)

/-- "Only if": at every moment, a composite that the program did not trigger directly is true only if at least one
of its operands is true. -/
theorem C03_true_only_if_some_operand {s : State} (h : sys.Reach s) (o : Nat) (ho : o < s.nOr)
    (hgo : (s.sigs (s.ors o).target).go = true) (hdir : (s.sigs (s.ors o).target).direct = false) :
    ∃ d, d ∈ (s.ors o).deps0 ∧ (s.sigs d).go = true := by
  have hl := reach_invL h
  exact (reach_invG h).trueOnlyIf _ o (hl.F1 o ho).1 (hl.F1 o ho).2 hgo hdir

/-- "As soon as": an operand that is true has its hook still to be registered, queued, or has already made the
composite true — so once the triggering `go()` (and the construction, if still running) has finished, the live
composite is true. -/
theorem C03_true_operand_propagates {s : State} (h : sys.Reach s) (o i d : Nat) (ho : o < s.nOr) (hd : (s.ors o).deps0[i]? = some d)
    (hgo : (s.sigs d).go = true) : HD s o i d :=
  (reach_invG h).truePropagates o i d ho hd hgo

/-- The equivalence: at every quiescent point, a live composite `c = x | y` that was not triggered directly is
true exactly when at least one operand is true. -/
theorem C03_or_iff {s : State} (h : sys.Reach s) (hq : Quiet s) (o : Nat) (ho : o < s.nOr)
    (hal : (s.sigs (s.ors o).target).alive = true) (hdir : (s.sigs (s.ors o).target).direct = false) :
    (s.sigs (s.ors o).target).go = true ↔ ∃ d, d ∈ (s.ors o).deps0 ∧ (s.sigs d).go = true := by
  constructor
  · intro hgo; exact C03_true_only_if_some_operand h o ho hgo hdir
  · rintro ⟨d, hdm, hgd⟩
    obtain ⟨i, hi⟩ := List.mem_iff_getElem?.mp hdm
    rcases C03_true_operand_propagates h o i d ho hi hgd with h1 | h1 | h1 | h1 | h1
    · exact absurd h1 (not_inTodos_of_quiet hq _)
    · exact absurd h1 (not_inTodos_of_quiet hq _)
    · exact absurd h1 (not_inTodos_of_quiet hq _)
    · exact h1
    · rw [hal] at h1; cases h1

/-- ... in terms of the two operands. -/
theorem C03_or_iff_operands {s : State} (h : sys.Reach s) (hq : Quiet s) (o : Nat) (ho : o < s.nOr)
    (hal : (s.sigs (s.ors o).target).alive = true) (hdir : (s.sigs (s.ors o).target).direct = false) :
    ∃ x y, (s.ors o).deps0 = [x, y] ∧ ((s.sigs (s.ors o).target).go = true ↔ ((s.sigs x).go = true ∨ (s.sigs y).go = true)) := by
  obtain ⟨x, y, hxy⟩ := ((reach_invH h).orInv o).twoOpds ho
  refine ⟨x, y, hxy, ?_⟩
  rw [C03_or_iff h hq o ho hal hdir, hxy]
  simp

/-- Once true, always true. -/
theorem C03_flag_is_monotone {s s' : State} {t : Nat} {l : Label} (h : sys.Reach s) (hs : step s t = some (s', l)) (z : Nat) (hz : z < s.nSig)
    (hgo : (s.sigs z).go = true) : (s'.sigs z).go = true := by
  obtain ⟨_, _, m⟩ := move_of_step (reach_invL h).heap_end hs
  exact (m.go z hz hgo).1

/-- a reachable quiescent state with a live composite that is true because its first operand is -/
example : ∃ s, sys.Reach s ∧ s.nOr = 1 ∧ (s.ors 0).target = 4 ∧ (s.ors 0).deps0 = [2, 3] ∧ (s.sigs 4).alive = true
    ∧ (s.sigs 4).direct = false ∧ (s.sigs 2).go = true ∧ (s.sigs 3).go = false ∧ (s.sigs 4).go = true
    ∧ s.todo 0 = [] ∧ s.todo 1 = [] :=
  ⟨demoO4.getD init, demoO_reach.2, by decide +kernel, by decide +kernel, by decide +kernel, by decide +kernel, by decide +kernel,
    by decide +kernel, by decide +kernel, by decide +kernel, by decide +kernel, by decide +kernel⟩

end MoThreads.Composite
