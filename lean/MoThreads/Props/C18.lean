/-
  C18 — Command: per-command isolation, literal arguments, true exit status.
  Theorems about M9 (Model/Command.lean): pure functions, every argument list / every output / every
  history of shell reuse.  bash itself, pipes and process scheduling are not modelled: the Lean
  functions are compared with the real `shlex.quote`, the real bash word splitting and real Command
  runs by the harness (harness/m9_command.py).
-/
import MoThreads.Model.Command
namespace MoThreads.Command

/-! ### every parameter reaches the program byte for byte -/

theorem safe_not_special {c : Char} (h : safe c = true) : c ≠ ' ' ∧ c ≠ '\'' ∧ c ≠ '"' := by
  refine ⟨?_, ?_, ?_⟩ <;> (intro hc; subst hc; revert h; decide)

theorem parse_safe_run (w : List Char) (hw : ∀ c, c ∈ w → safe c = true) (cur : Option (List Char)) (acc : List (List Char))
    (rest : List Char) :
    shParseAux .out cur acc (w ++ rest) = shParseAux .out (if w = [] then cur else some (cur.getD [] ++ w)) acc rest := by
  induction w generalizing cur with
  | nil => simp
  | cons c r ih =>
    have hc := hw c (by simp)
    obtain ⟨h1, h2, h3⟩ := safe_not_special hc
    simp only [List.cons_append, shParseAux, h1, h2, h3, hc, if_false, if_true]
    rw [ih (fun x hx => hw x (by simp [hx]))]
    by_cases hr : r = [] <;> simp [hr, app]

/-- inside '…' every character is literal; `'"'"'` leaves the quotes, reads one `'` inside "…", and enters them again -/
theorem parse_sq_body (s : List Char) (pre : List Char) (acc : List (List Char)) (rest : List Char) :
    shParseAux .sq (some pre) acc (escBody s ++ '\'' :: rest) = shParseAux .out (some (pre ++ s)) acc rest := by
  induction s generalizing pre with
  | nil => simp [escBody, shParseAux]
  | cons c r ih =>
    by_cases hc : c = '\''
    · subst hc; simp [escBody, shParseAux, app, ih]
    · simp [escBody, shParseAux, app, ih, hc]

/-- the word is left open, to be closed by the next space or the end of the line -/
theorem parse_quoted_word (a : List Char) (acc : List (List Char)) (rest : List Char) :
    shParseAux .out none acc (quote a ++ rest) = shParseAux .out (some a) acc rest := by
  unfold quote
  split
  · next he => subst he; simp [shParseAux]
  split
  · next he hs => rw [parse_safe_run a (fun c hc => List.all_eq_true.mp hs c hc)]; simp [he]
  · simp [shParseAux, parse_sq_body]

/-- Literal arguments: the shell's word splitting of the command line built by `cmd_escape` yields
exactly the parameter list — for EVERY list of strings (spaces, quotes, shell metacharacters, empty
strings, non-ASCII …).  (Line-based transport additionally needs the strings to be free of newlines.) -/
theorem C18_quote_roundtrip (params : List (List Char)) : shParse (commandLine params) = some params := by
  unfold shParse commandLine
  suffices h : ∀ acc, shParseAux .out none acc (joinSp (params.map quote)) = some (acc ++ params) by simpa using h []
  induction params with
  | nil => intro acc; simp [joinSp, shParseAux, pushWord]
  | cons a r ih =>
    intro acc
    cases r with
    | nil => simpa [joinSp, shParseAux, pushWord] using parse_quoted_word a acc []
    | cons b r' =>
      have := ih (acc ++ [a])
      simp only [List.map] at this
      simp [joinSp, parse_quoted_word, shParseAux, pushWord, this]

/-- quoting never produces a newline or NUL by itself: the line sent to the shell is one line -/
theorem C18_quote_adds_no_newline (a : List Char) (h : '\n' ∉ a) : '\n' ∉ quote a := by
  have hesc : ∀ s : List Char, '\n' ∈ escBody s → '\n' ∈ s := fun s => by
    induction s with
    | nil => simp [escBody]
    | cons c r ih =>
      unfold escBody; split
      · simpa using fun hm => Or.inr (ih hm)
      · simpa using Or.imp_right ih
  unfold quote
  split
  · decide
  split
  · exact h
  · simpa using fun hm => h (hesc a hm)

/-! ### each Command yields exactly its own lines and its own status -/

/-- Framing: whatever the command printed (any number of lines, none of them starting with the
marker) and whatever follows on the recycled shell, the worker relays exactly those lines, reads
exactly that status, and leaves the rest of the stream untouched for the next Command. -/
theorem C18_framing (out : List (List Char)) (rc : Nat) (rest : List Tok) :
    workerParse (frame out rc ++ rest) = some (out, rc, rest) := by
  induction out with
  | nil => simp [frame, workerParse]
  | cons l r ih =>
    simp only [frame, List.map, List.cons_append, workerParse] at ih ⊢
    rw [ih]; rfl

/-- Isolation under reuse: any history of commands on one shell is read back command by command. -/
theorem C18_session_isolation (cmds : List (List (List Char) × Nat)) (rest : List Tok) :
    parseSession cmds.length (session cmds ++ rest) = some cmds := by
  induction cmds with
  | nil => simp [parseSession]
  | cons c r ih => simp [session, parseSession, C18_framing, ih]

/-- KNOWN FINDING (negation witness): in-band framing cannot protect a program whose own output has a
line starting with the marker — the lines after it are lost and the status is misread. -/
theorem C18_violated_marker_in_output :
    workerParse ([.line ['a'], .marker ['x'], .line ['b'], .marker [], .status 0]) = none ∧
    workerParse ([.line ['a'], .marker ['x'], .status 7, .line ['b'], .marker [], .status 0]) = some ([['a']], 7, [.line ['b'], .marker [], .status 0]) := by
  decide

/-! ### a shell is handed to one Command at a time -/

def Pool.Ok (p : Pool) : Prop :=
  ((p.avail ++ p.inuse).map (·.2)).Nodup ∧ ∀ x, x ∈ p.avail ++ p.inuse → x.2 < p.nextPid

/-- `Ok` speaks of the shells of both lists together: moving one between the lists keeps it -/
theorem Pool.Ok.perm {p p' : Pool} (h : p.Ok) (hp : (p'.avail ++ p'.inuse).Perm (p.avail ++ p.inuse))
    (hn : p'.nextPid = p.nextPid) : p'.Ok :=
  ⟨(hp.map _).nodup_iff.mpr h.1, fun x hx => hn ▸ h.2 x (hp.mem_iff.mp hx)⟩

theorem findKey_mem {k : Nat} {l : List (Nat × Nat)} {x : Nat × Nat} (h : findKey k l = some x) : x ∈ l ∧ x.1 = k := by
  induction l with
  | nil => simp [findKey] at h
  | cons y r ih =>
    simp only [findKey] at h
    split at h
    · cases h; exact ⟨by simp, by assumption⟩
    · have := ih h; exact ⟨by simp [this.1], this.2⟩

/-- `get_or_create_process` keeps the pool in order and hands out a shell no Command is using -/
theorem C18_pool_get_ok (p : Pool) (k : Nat) (h : p.Ok) : (p.get k).1.Ok ∧ (p.get k).2 ∉ p.inuse.map (·.2) := by
  unfold Pool.get
  split
  · next x hf =>
    have hx := (findKey_mem hf).1
    refine ⟨h.perm ?_ rfl, fun hm => ?_⟩
    · show (p.avail.erase x ++ (p.inuse ++ [x])).Perm _
      rw [← List.append_assoc]
      exact List.perm_append_singleton _ _ |>.trans ((List.perm_cons_erase hx).symm.append_right _)
    · obtain ⟨y, hy, hye⟩ := List.mem_map.mp hm
      have := h.1
      rw [List.map_append, List.nodup_append] at this
      exact this.2.2 x.2 (List.mem_map.mpr ⟨x, hx, rfl⟩) y.2 (List.mem_map.mpr ⟨y, hy, rfl⟩) hye.symm
  · have hlt : ∀ a ∈ (p.avail ++ p.inuse).map (·.2), a < p.nextPid := fun a ha => by
      obtain ⟨x, hx, rfl⟩ := List.mem_map.mp ha; exact h.2 x hx
    refine ⟨⟨?_, fun x hx => ?_⟩, fun hm => ?_⟩
    · show ((p.avail ++ (p.inuse ++ [(k, p.nextPid)])).map (·.2)).Nodup
      rw [← List.append_assoc, List.map_append, List.nodup_append]
      exact ⟨h.1, by simp, fun a ha b hb => by have := hlt a ha; simp at hb; omega⟩
    · rw [← List.append_assoc, List.mem_append, List.mem_singleton] at hx
      obtain hx | rfl := hx
      · exact Nat.lt_succ_of_lt (h.2 x hx)
      · exact Nat.lt_succ_self _
    · exact Nat.lt_irrefl _ (hlt _ (by simp only [List.map_append, List.mem_append]; exact .inr hm))

theorem C18_pool_ret_ok (p p' : Pool) (pid : Nat) (h : p.Ok) (hr : p.ret pid = some p') : p'.Ok := by
  unfold Pool.ret at hr
  split at hr <;> cases hr
  next x hf =>
  refine h.perm ?_ rfl
  show ((p.avail ++ [x]) ++ p.inuse.erase x).Perm _
  rw [List.append_assoc]
  exact ((List.perm_cons_erase (List.mem_of_find?_eq_some hf)).symm).append_left _

/-- For every history of get/return operations on the manager, a shell is in at most one of
avail/inuse and listed at most once. -/
theorem C18_pool (ops : List PoolOp) : (Pool.init.run ops).Ok := by
  suffices h : ∀ p : Pool, p.Ok → (p.run ops).Ok from h _ ⟨by simp [Pool.init], by simp [Pool.init]⟩
  induction ops with
  | nil => exact fun p hp => hp
  | cons op r ih =>
    intro p hp
    cases op with
    | get k => exact ih _ (C18_pool_get_ok p k hp).1
    | ret pid =>
      simp only [Pool.run]
      split
      · next p' hr => exact ih _ (C18_pool_ret_ok p p' pid hp hr)
      · exact ih _ hp

/-- Non-vacuity: nasty parameters. -/
example : shParse (commandLine ["a b".toList, "it's".toList, "".toList, "$(rm -rf /)".toList, "x".toList]) =
    some ["a b".toList, "it's".toList, "".toList, "$(rm -rf /)".toList, "x".toList] := by decide

end MoThreads.Command
