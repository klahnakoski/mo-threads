/-
  C15 — Signal OR does not leak callbacks onto long-lived signals.
  Theorems about M2 (Model/Composite.lean) for every history of building composites (nested, shared operands),
  dropping references, triggering operands and composites, waiting with `wait(till=)`, with the collector and
  any number of threads interleaved at the granularity of one Signal operation — including an operand being
  triggered by another thread while a composite is being wired or is detaching.
-/
import MoThreads.Proofs.CompHook
namespace MoThreads.Composite
open MoThreads

/-- No leaked hook: at every quiescent point, a hook of an OrSignal sitting in the callback list of a signal `z`
belongs to a composite that is alive, untriggered, built on `z` (at that operand position), whose operand list
is intact and whose own cleanup is registered — i.e. once a composite has been triggered or is no longer
referenced, the long-lived signal holds no callback for it. -/
theorem C15_no_leaked_hook {s : State} (h : sys.Reach s) (hq : Quiet s) (z o i : Nat) (hj : Job.orHook o i ∈ (s.sigs z).jobs) :
    (s.sigs (s.ors o).target).alive = true ∧ (s.sigs (s.ors o).target).go = false ∧ (s.ors o).deps0[i]? = some z
    ∧ (s.ors o).deps = (s.ors o).deps0 ∧ Job.orCleanup o ∈ (s.sigs (s.ors o).target).jobs := by
  have hh := (reach_invH h).orInv o
  rcases hh.hookCovered z i hj with g | g | g | g
  · exact absurd g.2 (not_inTodos_of_quiet hq _)
  · exact ⟨g.2.2.1, g.2.2.2, hh.hookAtOpd z i hj, g.1, g.2.1⟩
  · exact absurd g.2 (not_inTodos_of_quiet hq _)
  · exact absurd g (not_inTodos_of_quiet hq _)

/-- Each hook is there at most once (per OrSignal and operand position): so the OR hooks pending on a signal
are bounded by the live, untriggered composites built on it, counted with the multiplicity of the operand. -/
theorem C15_hook_at_most_once {s : State} (h : sys.Reach s) (z o i : Nat) : (s.sigs z).jobs.count (.orHook o i) ≤ 1 := by
  have := ((reach_invH h).orInv o).hookOnce z i; omega

/-- A signal that has been triggered, or has died, holds no callbacks at all. -/
theorem C15_triggered_signal_holds_nothing {s : State} (h : sys.Reach s) (z : Nat)
    (hz : (s.sigs z).go = true ∨ (s.sigs z).alive = false) : (s.sigs z).jobs = [] :=
  hz.elim ((reach_invH h).goNoJobs z) ((reach_invH h).deadNoJobs z)

/-- Also while operations are in progress (a composite being wired in one thread, an operand triggered or a
cleanup detaching in another), every hook is covered: its composite's cleanup is still to be registered by the
construction in progress, is registered on the live untriggered composite, is queued to run, or the removal of
this very hook is queued. -/
theorem C15_every_hook_is_covered {s : State} (h : sys.Reach s) (z o i : Nat) (hj : Job.orHook o i ∈ (s.sigs z).jobs) :
    Guard s z o i := ((reach_invH h).orInv o).hookCovered z i hj

/-- ... and a queued removal does remove it: `remove_then` on an untriggered signal erases the hook, and no
second copy exists (`C15_hook_at_most_once`); on a triggered signal there is nothing left to remove. -/
theorem C15_removal_is_effective {s : State} (h : sys.Reach s) (t d o i : Nat) (rest : List Act) (ht : t < NT)
    (hs : s.todo t = Act.removeJ d (.orHook o i) :: rest) (s' : State) (he : exec s t (.removeJ d (.orHook o i)) rest = some s') :
    Job.orHook o i ∉ (s'.sigs d).jobs := by
  have hh := reach_invH h
  have hl := reach_invL h
  obtain ⟨_, m⟩ := move_exec hl.heap_end ht hs he
  intro hm
  cases hg : (s.sigs d).go with
  | true => rw [(m.go d (hl.M1 _ d (m.td.head rfl) (.head _)) hg).2.2, hh.goNoJobs d hg] at hm; cases hm
  | false =>
    have := List.count_pos_iff.mpr hm
    rw [m.ran rfl hg, List.count_erase_self] at this
    have := (hh.orInv o).hookOnce d i; omega

/-- a reachable quiescent state in which the long-lived operands carry the hooks of a live composite … -/
example : ∃ s, sys.Reach s ∧ (s.sigs 2).jobs = [.orHook 0 0] ∧ (s.sigs 3).jobs = [.orHook 0 1] ∧ (s.sigs 4).jobs = [.orCleanup 0]
    ∧ (s.sigs 4).alive = true ∧ (s.sigs 4).go = false ∧ s.todo 0 = [] ∧ s.todo 1 = [] :=
  ⟨demoO2.getD init, demoO_reach.1, by decide +kernel, by decide +kernel, by decide +kernel, by decide +kernel, by decide +kernel,
    by decide +kernel, by decide +kernel⟩

/-- … and after the composite has been triggered through `a`, neither operand holds anything -/
example : ∃ s, sys.Reach s ∧ (s.sigs 4).go = true ∧ (s.sigs 2).jobs = [] ∧ (s.sigs 3).jobs = [] ∧ (s.sigs 3).go = false :=
  ⟨demoO4.getD init, demoO_reach.2, by decide +kernel, by decide +kernel, by decide +kernel, by decide +kernel⟩

end MoThreads.Composite
