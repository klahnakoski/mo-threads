/-
  C01 — Signal: one-shot broadcast with no lost wake-up.
  Theorems about M1 (Model/SignalCore.lean): every reachable state, any number of threads, any
  interleaving of wait()/go()/bool()/then()/remove_then() at single-shared-access granularity.
-/
import MoThreads.Proofs.SignalCoreRank
namespace MoThreads.SignalCore
open MoThreads

/-- Nobody is released early: a thread that has returned from `wait()` proves the flag is true. -/
theorem C01_no_early_release {s : State} (h : sys.Reach s) (t : Nat)
    (hret : s.pc t = .idle .waitTrue) : s.go = true :=
  ((reach_inv h).thr t).sawGo (by rw [hret]; rfl)

/-- The release step itself (`stopper.acquire()` succeeding, or either fast path) happens with the flag true. -/
theorem C01_release_step_sees_flag {s s' : State} {t : Nat} {l : Label} (h : sys.Reach s)
    (hs : step s t = some (s', l)) (hret : s'.pc t = .idle .waitTrue) : s'.go = true :=
  C01_no_early_release (Sys.Reach.step h hs) t hret

/-- Once true, true forever: no system step and no API call resets the flag. -/
theorem C01_flag_monotone_step {s s' : State} {t : Nat} {l : Label}
    (hs : step s t = some (s', l)) (hg : s.go = true) : s'.go = true :=
  (step_frame hs).2.1.elim (· ▸ hg) (·.2)

theorem C01_flag_monotone_call {s s' : State} {t : Nat} {op : Op}
    (hc : call s t op = some s') (hg : s.go = true) : s'.go = true :=
  (call_frame hc).2.trans hg

/-- `bool()` returns the current flag (one shared read). -/
theorem C01_bool_reads_flag {s s' : State} {t : Nat} {l : Label} (hp : s.pc t = .b0)
    (hs : step s t = some (s', l)) : s'.pc t = .idle (.boolV s.go) ∧ l = .rGo s.go := by
  unfold step at hs; rw [hp] at hs; cases hs; simp [State.setPc]

/-- Everyone who ever read `true` agrees with the state: a `bool()`/`wait()` that saw true implies the flag is true now. -/
theorem C01_read_true_is_stable {s : State} (h : sys.Reach s) (t : Nat)
    (hret : s.pc t = .idle (.boolV true)) : s.go = true :=
  ((reach_inv h).thr t).sawGo (by rw [hret]; rfl)

/-- At most one `go()` call is ever in the post-publish region: repeated/concurrent go() have one winner. -/
theorem C01_go_unique_winner {s : State} (h : sys.Reach s) (t u : Nat)
    (ht : (s.pc t).isWinner = true) (hu : (s.pc u).isWinner = true) : t = u := by
  have i := reach_inv h
  have a := (i.thr t).win.mp ht
  have b := (i.thr u).win.mp hu
  rw [a] at b; exact Option.some.inj b

/-- A `go()` issued when the flag is already true never reaches the publishing write … -/
theorem C01_go_idempotent_never_publishes {s : State} (h : sys.Reach s) (t : Nat) (hg : s.go = true) :
    s.pc t ≠ .g3 := by
  intro hp
  have := ((reach_inv h).thr t).preSet (by rw [hp]; rfl)
  rw [hg] at this; cases this

/-- … and its steps (fast path, lock, locked re-test, unlock) change nothing but its own pc and the mutex. -/
theorem C01_go_idempotent_no_effect {s s' : State} {t : Nat} {l : Label}
    (hp : s.pc t = .g0 ∨ s.pc t = .g1 ∨ s.pc t = .g2 ∨ s.pc t = .g2r)
    (hs : step s t = some (s', l)) :
    s'.go = s.go ∧ s'.jobs = s.jobs ∧ s'.waiting = s.waiting ∧ s'.unlocked = s.unlocked ∧
    s'.ran = s.ran ∧ s'.errs = s.errs := by
  unfold step at hs
  rcases hp with hp | hp | hp | hp <;> rw [hp] at hs <;> simp only at hs
  all_goals first
    | (cases hs; simp [State.setPc]; done)
    | (split at hs <;> cases hs <;> simp [State.setPc])

/-- No lost wake-up: when the flag is true and no go() is still publishing, every parked (or about
to park) waiter's stopper has been released, i.e. the waiter is enabled.  Covers waiters that were
already parked, that had tested the flag but not yet parked, and that came later. -/
theorem C01_no_lost_wakeup {s : State} (h : sys.Reach s) (hg : s.go = true) (hw : s.winner = none)
    (t x : Nat) (hp : s.pc t = .w6 x ∨ s.pc t = .w7 x) : s.unlocked x = true := by
  have i := (reach_inv h).win
  rw [State.winPC, hw] at i
  rcases i.noLost t x (by rcases hp with hp | hp <;> rw [hp] <;> rfl) with h1 | h1 | h1
  · exact h1
  · rw [i.liveW hg rfl] at h1; cases h1
  · cases h1

/-- A thread holding the signal's lock is never blocked (no blocking operation inside `with self.lock`). -/
theorem C01_lock_holder_enabled {s : State} (h : sys.Reach s) (t : Nat) (hl : s.lock = some t) :
    (step s t).isSome = true := by
  have hh := ((reach_inv h).thr t).mutex.mpr hl
  unfold step
  cases hp : s.pc t <;> simp_all [PC.holds]

/-- The publishing go() is never blocked either (it only releases and runs callbacks). -/
theorem C01_winner_enabled {s : State} (h : sys.Reach s) (t : Nat) (hw : (s.pc t).isWinner = true) :
    (step s t).isSome = true := by
  have i := reach_inv h
  unfold step
  cases hp : s.pc t with
  | g9 js ws => have := (i.thr t).loopNe ws (by rw [hp]; rfl); cases ws <;> simp_all
  | g10 js => have := (i.thr t).loopNe js (by rw [hp]; rfl); cases js <;> simp_all
  | _ => simp_all [PC.isWinner]

theorem quiescent_no_winner {s : State} (h : sys.Reach s) (hq : sys.Quiescent s) : s.winner = none := by
  cases hl : s.winner with
  | none => rfl
  | some u =>
    have := C01_winner_enabled h u (((reach_inv h).thr u).win.mpr hl)
    have hq' : step s u = none := hq u
    rw [hq'] at this; cases this

/-- No deadlock / no stranded waiter: in a reachable state where nothing can move and the flag is
true, every call has returned — in particular every `wait()`. -/
theorem C01_quiescent_all_returned {s : State} (h : sys.Reach s) (hq : sys.Quiescent s)
    (hg : s.go = true) (t : Nat) : ∃ r, s.pc t = .idle r := by
  have i := reach_inv h
  have hlock : s.lock = none := by
    cases hl : s.lock with
    | none => rfl
    | some u =>
      have := C01_lock_holder_enabled h u hl
      have hq' : step s u = none := hq u
      rw [hq'] at this; cases this
  have hwin := quiescent_no_winner h hq
  have hst : step s t = none := hq t
  unfold step at hst
  cases hp : s.pc t with
  | idle r => exact ⟨r, rfl⟩
  | w7 x =>
    have := C01_no_lost_wakeup h hg hwin t x (Or.inr hp)
    rw [hp] at hst; simp [this] at hst
  | g9 js ws | g10 js => have := (i.thr t).win.mp (by rw [hp]; rfl); rw [hwin] at this; cases this
  | _ => rw [hp] at hst; simp_all

/-- The `Never` variant (NEVER constant): the flag is false in every reachable state. -/
theorem C01_never {s : State} (h : sys.Reach s) (hn : s.never = true) : s.go = false :=
  (reach_inv h).nev hn

/-- Non-vacuity: a concrete run — t0 waits and parks, t1 calls go() — reaches a state with the flag
true in which t0 has returned. -/
def demoRun : Option State := do
  let s ← call (init false (fun _ => false)) 0 .wait
  let s ← call s 1 .go
  let run (s : State) (ts : List Nat) : Option State := ts.foldlM (fun s t => (step s t).map (·.1)) s
  run s [0, 0, 0, 0, 0, 0, 0, 1, 1, 1, 1, 1, 1, 1, 1, 1, 1, 0]

example : (demoRun.map fun s => (s.go, s.pc 0, s.pc 1)) = some (true, .idle .waitTrue, .idle .goSelf) := by
  decide

theorem run_go_mono {s s' : State} {tr : List (Nat × Label)} (r : sys.Run s tr s') (hg : s.go = true) : s'.go = true :=
  r.preserves sys (fun _ _ _ _ hg hs => C01_flag_monotone_step hs hg) hg

/-- L2 (termination): with no new API calls, every schedule — fair or not — takes at most `rank N s`
steps, where `N` bounds the ids of the threads that are inside a call; the rank is an explicit function
of the program counters and the lengths of the two shared lists. -/
theorem C01_runs_terminate {N : Nat} {s s' : State} {tr : List (Nat × Label)} (hb : Below N s)
    (r : sys.Run s tr s') : tr.length ≤ rank N s := by
  have := run_length_le_rank hb r; omega

/-- … and a run that cannot be extended has released everybody: once the flag is true every `wait()`,
`go()`, `then()`, `remove_then()` in progress returns after finitely many steps of any scheduler that
does not stop while some thread can move. -/
theorem C01_every_wait_returns {N : Nat} {s s' : State} {tr : List (Nat × Label)} (h : sys.Reach s) (hb : Below N s)
    (hg : s.go = true) (r : sys.Run s tr s') :
    tr.length ≤ rank N s ∧ (sys.Quiescent s' → ∀ t, ∃ r, s'.pc t = .idle r) :=
  ⟨C01_runs_terminate hb r, fun hq t => C01_quiescent_all_returned (h.run sys r) hq (run_go_mono r hg) t⟩


/-! non-vacuity of the L2 theorems: t0 is parked in wait(), t1 has just published the flag -/

def stepD (s : State) (t : Nat) : State := ((step s t).map (·.1)).getD s
def callD (s : State) (t : Nat) (op : Op) : State := (call s t op).getD s
def demoL2 : State :=
  [0, 0, 0, 0, 0, 0, 0, 1, 1, 1, 1].foldl stepD (callD (callD (init false (fun _ => false)) 0 .wait) 1 .go)

theorem reach_callD {s : State} (h : sys.Reach s) (t : Nat) (op : Op) : sys.Reach (callD s t op) :=
  h.envD sys fun _ hs => ⟨t, op, hs⟩

theorem below_stepD {N : Nat} {s : State} (h : Below N s) (t : Nat) : Below N (stepD s t) := by
  unfold stepD
  cases hs : step s t with
  | none => exact h
  | some p => exact below_step h hs

theorem below_callD {N : Nat} {s : State} (h : Below N s) (t : Nat) (ht : t < N) (op : Op) : Below N (callD s t op) := by
  unfold callD
  cases hs : call s t op with
  | none => exact h
  | some p => exact fun u hu => (call_frame hs).1 u (by omega) ▸ h u hu

theorem reach_foldl {s : State} (h : sys.Reach s) (ts : List Nat) : sys.Reach (ts.foldl stepD s) :=
  Sys.foldl_preserves (fun _ t h => h.stepD sys t) h ts

theorem below_foldl {N : Nat} {s : State} (h : Below N s) (ts : List Nat) : Below N (ts.foldl stepD s) :=
  Sys.foldl_preserves (P := Below N) (fun _ t h => below_stepD h t) h ts

example : sys.Reach demoL2 ∧ Below 2 demoL2 ∧ demoL2.go = true ∧ demoL2.pc 0 = .w7 0 ∧ demoL2.pc 1 = .g4 ∧ rank 2 demoL2 = 7 := by
  refine ⟨reach_foldl (reach_callD (reach_callD (Sys.Reach.init ⟨_, _, rfl⟩) 0 .wait) 1 .go) _,
    below_foldl (below_callD (below_callD (fun t _ => ⟨.none, rfl⟩) 0 (by omega) .wait) 1 (by omega) .go) _,
    by decide, by decide, by decide, by decide⟩

end MoThreads.SignalCore
