/-
  C13 / C14 — L2 for the timer daemon (M6): it settles (no spinning), and a requested shutdown completes.
-/
import MoThreads.Props.C14
import MoThreads.Proofs.TillRank
namespace MoThreads.Till
open MoThreads

/-- L2: the daemon does not spin.  From any reachable state, with no new Till, no stop request and no passing of time,
every schedule takes at most `rank N s` steps (N bounds the ids of the creators inside a creation): the daemon can start
a scan without having slept only as often as a creator lowers `next_ping` to the present, and fires each timer once.
Where nobody can move, every creation has completed and the daemon is asleep with its wake-up time ahead, or has ended. -/
theorem C13_daemon_settles {N : Nat} {s s' : State} {tr : List (Nat × Label)} (h : sys.Reach s) (hb : Below N s)
    (r : sys.Run s tr s') :
    tr.length ≤ rank N s ∧
    (sys.Quiescent s' → (∀ t, s'.cpc t = .idle) ∧ (s'.dpc = .done ∨ ∃ w, s'.dpc = .asleep w ∧ s'.now < w)) := by
  have := run_length_le_rank (reach_inv h) hb r
  exact ⟨by omega, quiescent_settled (reach_inv (h.run sys r))⟩

/-- L2 for shutdown: once a stop has been requested and the daemon is awake at its loop test (or its sleep is over),
every schedule ends — within the rank bound — with the daemon done and EVERY Till ever created true, whatever creators
were doing meanwhile. -/
theorem C14_shutdown_completes {N : Nat} {s s' : State} {tr : List (Nat × Label)} (h : sys.Reach s) (hb : Below N s)
    (hp : StopPath s) (r : sys.Run s tr s') :
    tr.length ≤ rank N s ∧ (sys.Quiescent s' → s'.dpc = .done ∧ ∀ id, s'.created id = true → s'.fired id = true) := by
  obtain ⟨h1, h2⟩ := C13_daemon_settles h hb r
  refine ⟨h1, fun hq => ?_⟩
  have hd : s'.dpc = .done := by
    rcases (h2 hq).2 with hd | ⟨w, hw, hlt⟩
    · exact hd
    · have : stopPc (.asleep w) s'.now := hw ▸ (stopPath_run hp r).2
      have : w ≤ s'.now := this
      omega
  exact ⟨hd, C14_no_stranded_till (h.run sys r) hq hd⟩

def stepG (s : State) (t : Nat) : State := ((step s t).map (·.1)).getD s

def callG (s : State) (t : Nat) (secs : Int) : State := (callTill s t secs).getD s
def callGA (s : State) (t : Nat) (secs : Int) : State := (callTillAbs s t secs).getD s

/-- daemon started; creator 1 is about to register a Till due in 5 ticks, creator 2 one with a deadline in the past -/
def demoT0 : State := callGA (callG (stepG (init 10) 0) 1 5) 2 (-3)

theorem demoT0_reach : sys.Reach demoT0 :=
  (((Sys.Reach.init (S := sys) ⟨10, by decide, rfl⟩).stepD sys 0).envD sys (o := callTill _ 1 5) fun _ e => .inl ⟨1, 5, e⟩).envD sys
    (o := callTillAbs _ 2 (-3)) fun _ e => .inr (.inl ⟨2, -3, e⟩)

example : Below 3 demoT0 := by
  intro t ht
  have : t ≠ 1 ∧ t ≠ 2 := by omega
  simp [demoT0, callG, callGA, callTill, callTillAbs, stepG, step, stepD, init, State.setC, this.1, this.2]

example : rank 3 demoT0 = 68 := by decide

/-- both creations complete, the daemon scans (no sleep: `next_ping` was lowered to the past), fires the overdue Till,
scans again and goes to sleep: 50-odd steps, fewer than the rank allows -/
def demoT1 : State := (List.replicate 8 1 ++ List.replicate 8 2 ++ List.replicate 40 0).foldl stepG demoT0

example : demoT1.dpc = .asleep 5 ∧ demoT1.cpc 1 = .idle ∧ demoT1.cpc 2 = .idle ∧ demoT1.fired 0 = false ∧ demoT1.fired 1 = true ∧
    step demoT1 0 = none ∧ rank 3 demoT1 = 8 := by decide +kernel
theorem demoT1_reach : sys.Reach demoT1 := Sys.foldl_preserves (fun _ t h => h.stepD sys t) demoT0_reach _

/-- the stop request arrives while the daemon is at its loop test -/
def demoStop : State := requestStop demoT0
example : StopPath demoStop := ⟨rfl, by show stopPc DPC.d0 _; trivial⟩

end MoThreads.Till
