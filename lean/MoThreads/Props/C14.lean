/-
  C14 — Till: shutdown can not strand a waiter.  Theorems about M6, the model of the REPAIRED
  Till.__init__ (commit "fix: a Till created while the timer daemon shuts down is triggered…").
  The pinned tree violated it: a creation that passed the `enabled` test and appended after the
  daemon's final swap was never fired (replay: corpus/m6/c14-stranded.json).
-/
import MoThreads.Proofs.TillRank
namespace MoThreads.Till
open MoThreads

/-- When the daemon has finished its shutdown and no creation is in progress, EVERY Till object ever
created is true — for every placement of the shutdown relative to each step of each creation. -/
theorem C14_drain {s : State} (h : sys.Reach s) (hd : s.dpc = .done) (hidle : ∀ t, s.cpc t = .idle)
    (id : Nat) (hc : s.created id = true) : s.fired id = true := by
  have i := (reach_inv h).at hd
  cases hf : s.fired id with
  | true => rfl
  | false =>
    cases hr : s.regd id with
    | true =>
      -- the three places where an unfired timer could be are empty
      rcases i.unfiredListed id hr hf with h1 | h1 | h1
      · exact nomatch i.newEmptied rfl ▸ h1
      · exact nomatch i.sortedEmptied rfl ▸ h1
      · exact nomatch h1
    | false =>
      have := (i.thr _).noOrphan id rfl hc hr hf
      rw [hidle] at this; cases this

/-- Creators are never blocked for good: the locker's holder can always move (also without `hd`: a daemon that cannot move
holds nothing, `stepD_none`). -/
theorem C14_creators_finish {s : State} (h : sys.Reach s) (hq : sys.Quiescent s) (hd : s.dpc = .done)
    (t : Nat) : s.cpc t = .idle :=
  (quiescent_settled (reach_inv h) hq).1 t

/-- L1: in every quiescent state after the daemon has ended, every Till ever created is true, so no
thread can be parked on one (by C01, a waiter on a true signal is released). -/
theorem C14_no_stranded_till {s : State} (h : sys.Reach s) (hq : sys.Quiescent s) (hd : s.dpc = .done)
    (id : Nat) (hc : s.created id = true) : s.fired id = true :=
  C14_drain h hd (C14_creators_finish h hq hd) id hc

/-- A Till requested after the daemon disabled timers is the always-true signal: no object is created. -/
theorem C14_after_disable_returns_done {s s' s'' : State} {t : Nat} {secs : Int} {l : Label} (hdis : s.disabled = true)
    (hc : callTill s t secs = some s') (hst : step s' t = some (s'', l)) :
    s''.cpc t = .idle ∧ l = .cEnabled false ∧ s''.nextId = s.nextId := by
  unfold callTill at hc
  split at hc
  · cases hc
  · split at hc <;> cases hc
    simp [step, stepC, State.setC, hdis, ‹¬t = 0›] at hst
    obtain ⟨rfl, rfl⟩ := hst
    simp

/-- A creation caught in the middle by the shutdown fires its own Till (`late` branch). -/
theorem C14_late_creation_fires_itself {s s' : State} {t id : Nat} {l : Label} (ht : t ≠ 0) (hp : s.cpc t = .c5 id)
    (hst : step s t = some (s', l)) : s'.fired id = true := by
  simp only [step, ht, if_false, stepC, hp] at hst; cases hst
  exact fireId_self s id false

end MoThreads.Till
