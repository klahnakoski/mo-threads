/-
  C04 — Signal AND: the composite is true exactly when all operands are.
  Theorems about M2 (Model/Composite.lean, the model of `__and__` as REPAIRED: the AndSignals object keeps its
  operands), for every history of building composites (nested, shared operands, `a & a`), dropping references,
  triggering, the reference-count collector, and every interleaving of those operations at the granularity of
  one Signal operation; the countdown step (decrement under its own lock, go() at zero) is one model step, and is
  additionally explored on the real code at the granularity of every access to `remaining` (fine-mode runs).
-/
import MoThreads.Proofs.CompAnd
namespace MoThreads.Composite
open MoThreads

/-- Operands are kept alive: in every reachable state, every operand of a live, untriggered AND composite
is itself alive (it can still be triggered; its own operands, recursively, by `C03_operands_kept_alive`). -/
theorem C04_operands_kept_alive {s : State} (h : sys.Reach s) (n : Nat) (hn : n < s.nAnd)
    (hal : (s.sigs (s.ands n).target).alive = true) (hgo : (s.sigs (s.ands n).target).go = false) :
    ∀ d, d ∈ (s.ands n).deps0 → d < s.nSig ∧ (s.sigs d).alive = true :=
  (reach_invL h).La n hn hal hgo

/-- The reference that keeps them is the one the repair added: the operand list of the AndSignals object is
intact until the composite is triggered, and the object itself is referenced from the composite's job list
(or by the construction still in progress). -/
theorem C04_operand_list_intact {s : State} (h : sys.Reach s) (n : Nat) (hn : n < s.nAnd)
    (hal : (s.sigs (s.ands n).target).alive = true) (hgo : (s.sigs (s.ands n).target).go = false) :
    (s.ands n).deps = (s.ands n).deps0 ∧
    (Job.andCleanup n ∈ (s.sigs (s.ands n).target).jobs ∨ InTodos s (.thenJ (s.ands n).target (.andCleanup n))) :=
  ⟨(reach_invL h).and_intact hn hgo, (reach_invL h).Ka n hn hal hgo⟩

/-- Such an operand cannot be collected: the collector's guard fails for it. -/
theorem C04_operand_not_collectable {s : State} (h : sys.Reach s) (n : Nat) (hn : n < s.nAnd)
    (hal : (s.sigs (s.ands n).target).alive = true) (hgo : (s.sigs (s.ands n).target).go = false)
    (d : Nat) (hd : d ∈ (s.ands n).deps0) : collectable s d = false :=
  Bool.eq_false_iff.mpr fun hc => (reach_invL h).and_not_collectable hn hal hgo hd (collectable_spec hc)

/-- The countdown never skips and never double-counts: the token of each operand is in at most one place (still to be
registered, registered on the operand, or detached and queued), and `remaining` is exactly the number of operands
whose token has not been consumed (an operand that is true and whose token is gone has been counted). -/
theorem C04_countdown_is_exact {s : State} (h : sys.Reach s) (n x y : Nat) (hn : n < s.nAnd) (hxy : (s.ands n).deps0 = [x, y]) :
    liveA s n 0 x ≤ 1 ∧ liveA s n 1 y ≤ 1 ∧ (s.ands n).remaining = wA s n 0 x + wA s n 1 y := by
  have ha := reach_invA h
  exact ⟨ha.tokenOnce n 0 x hn (by rw [hxy]; rfl), ha.tokenOnce n 1 y hn (by rw [hxy]; rfl), ha.countdownExact n x y hn hxy⟩

/-- "Only when": at every moment, an AND composite that the program did not trigger directly is true only if every
operand is true. -/
theorem C04_true_only_if_all_operands {s : State} (h : sys.Reach s) (n : Nat) (hn : n < s.nAnd)
    (hgo : (s.sigs (s.ands n).target).go = true) (hdir : (s.sigs (s.ands n).target).direct = false) :
    ∀ d, d ∈ (s.ands n).deps0 → (s.sigs d).go = true := by
  have hl := reach_invL h
  exact (reach_invA h).trueOnlyIf _ n (hl.F2 n hn).1 (hl.F2 n hn).2 hgo hdir

/-- The equivalence, "exactly at the last trigger": at every quiescent point an AND composite that was not triggered
directly is true exactly when all its operands are true — so it is false as long as one operand is false, and true
once the `go()` that triggered the last operand has finished. -/
theorem C04_and_iff {s : State} (h : sys.Reach s) (hq : Quiet s) (n : Nat) (hn : n < s.nAnd)
    (hdir : (s.sigs (s.ands n).target).direct = false) :
    (s.sigs (s.ands n).target).go = true ↔ ∀ d, d ∈ (s.ands n).deps0 → (s.sigs d).go = true := by
  have ha := reach_invA h
  constructor
  · intro hgo; exact C04_true_only_if_all_operands h n hn hgo hdir
  · intro hall
    obtain ⟨x, y, hxy⟩ := ha.twoOpds n hn
    have nocnt : ∀ b, cnt s b = 0 := fun b => cnt_zero.mpr (not_inTodos_of_quiet hq b)
    have w0 : ∀ i d, (s.sigs d).go = true → wA s n i d = 0 := by
      intro i d hgd
      unfold wA liveA
      rw [nocnt, nocnt, (reach_invH h).goNoJobs d hgd, hgd]; simp
    have hr : (s.ands n).remaining = 0 := by
      rw [ha.countdownExact n x y hn hxy, w0 0 x (hall x (by rw [hxy]; simp)), w0 1 y (hall y (by rw [hxy]; simp))]
    rcases ha.zeroTriggers n hn hr with h1 | h1
    · exact h1
    · exact absurd h1 (not_inTodos_of_quiet hq _)

/-- ... in terms of the two operands. -/
theorem C04_and_iff_operands {s : State} (h : sys.Reach s) (hq : Quiet s) (n : Nat) (hn : n < s.nAnd)
    (hdir : (s.sigs (s.ands n).target).direct = false) :
    ∃ x y, (s.ands n).deps0 = [x, y] ∧ ((s.sigs (s.ands n).target).go = true ↔ ((s.sigs x).go = true ∧ (s.sigs y).go = true)) := by
  obtain ⟨x, y, hxy⟩ := (reach_invA h).twoOpds n hn
  refine ⟨x, y, hxy, ?_⟩
  rw [C04_and_iff h hq n hn hdir, hxy]
  simp

/-! ### the hypotheses are satisfiable: `c = a & b`, then `a.go()`, then `b.go()` -/

def demoA0 : State := newLeaf (newLeaf init)                                   -- a = 2, b = 3
def demoA1 : Option State := call demoA0 0 (.mkAnd 2 3)
def demoA2 : Option State := runSched (demoA1.getD init) [0, 0, 0, 0, 0]          -- andNew, three registrations, ret: c = 4
def demoA3 : Option State := call (demoA2.getD init) 1 (.go 2)
def demoA4 : Option State := runSched (demoA3.getD init) [1, 1]                   -- a.go(): flag, countdown step
def demoA5 : Option State := call (demoA4.getD init) 1 (.go 3)
def demoA6 : Option State := runSched (demoA5.getD init) [1, 1, 1, 1]             -- b.go(): flag, countdown step, c.go(), cleanup

example : ∃ s, sys.Reach s ∧ s.nAnd = 1 ∧ (s.ands 0).target = 4 ∧ (s.ands 0).deps0 = [2, 3] ∧ (s.sigs 4).direct = false
    ∧ (s.sigs 2).go = true ∧ (s.sigs 3).go = true ∧ (s.sigs 4).go = true ∧ (s.ands 0).remaining = 0
    ∧ s.todo 0 = [] ∧ s.todo 1 = [] := by
  refine ⟨demoA6.getD init, ?_, by decide +kernel, by decide +kernel, by decide +kernel, by decide +kernel,
    by decide +kernel, by decide +kernel,
    by decide +kernel, by decide +kernel, by decide +kernel, by decide +kernel⟩
  have r0 : sys.Reach demoA0 :=
    Sys.Reach.env (Sys.Reach.env (Sys.Reach.init rfl) (Or.inr (Or.inl rfl))) (Or.inr (Or.inl rfl))
  have r2 : sys.Reach (demoA2.getD init) := reach_call_run r0 (by decide +kernel) (by decide +kernel)
  have r4 : sys.Reach (demoA4.getD init) := reach_call_run r2 (by decide +kernel) (by decide +kernel)
  exact reach_call_run r4 (by decide +kernel) (by decide +kernel)

end MoThreads.Composite
