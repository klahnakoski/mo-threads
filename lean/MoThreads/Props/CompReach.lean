/-
  C03 / C04 — the operands of a composite are reachable from it by strong references alone (robust against a cyclic collector).
-/
import MoThreads.Props.C03
import MoThreads.Proofs.CompHook
namespace MoThreads.Composite
open MoThreads

/-- objects of the heap and the STRONG references between them (an OrSignal refers to its composite only weakly, so
there is no edge from an OrSignal to its composite) -/
inductive Obj
  | sig (z : Nat) | orO (o : Nat) | andO (n : Nat)

inductive Edge (s : State) : Obj → Obj → Prop
  | jobOr {z o : Nat} {j : Job} : j ∈ (s.sigs z).jobs → j.orObj = some o → Edge s (.sig z) (.orO o)
  | jobAnd {z n : Nat} {j : Job} : j ∈ (s.sigs z).jobs → j.andObj = some n → Edge s (.sig z) (.andO n)
  | orDep {o d : Nat} : d ∈ (s.ors o).deps → Edge s (.orO o) (.sig d)
  | andDep {n d : Nat} : d ∈ (s.ands n).deps → Edge s (.andO n) (.sig d)
  | andTarget {n : Nat} : Edge s (.andO n) (.sig (s.ands n).target)

/-- A live, untriggered OR composite holds its OrSignal strongly — its cleanup is in the composite's callback list, or
the thread building the composite is about to put it there — and the OrSignal's operand list is intact. -/
theorem C03_composite_owns_its_OrSignal {s : State} (h : sys.Reach s) (o : Nat) (ho : o < s.nOr)
    (hal : (s.sigs (s.ors o).target).alive = true) (hgo : (s.sigs (s.ors o).target).go = false) :
    (Job.orCleanup o ∈ (s.sigs (s.ors o).target).jobs ∨ InTodos s (.thenJ (s.ors o).target (.orCleanup o)))
    ∧ (s.ors o).deps = (s.ors o).deps0 :=
  ⟨((reach_invH h).orInv o).owned ho hal hgo, C03_operand_list_intact h o ho hal hgo⟩

/-- Hence, at every quiescent point, every operand of a live untriggered OR composite is reachable from the composite
by strong references alone (composite → OrSignal → operand): a collector that frees what is unreachable from the
program — reference counting or cycle detection — cannot free an operand of a composite the program can reach. -/
theorem C03_operands_strongly_reachable {s : State} (h : sys.Reach s) (hq : Quiet s) (o : Nat) (ho : o < s.nOr)
    (hal : (s.sigs (s.ors o).target).alive = true) (hgo : (s.sigs (s.ors o).target).go = false)
    (d : Nat) (hd : d ∈ (s.ors o).deps0) :
    Edge s (.sig (s.ors o).target) (.orO o) ∧ Edge s (.orO o) (.sig d) := by
  obtain ⟨h1, h2⟩ := C03_composite_owns_its_OrSignal h o ho hal hgo
  refine ⟨?_, .orDep (by rw [h2]; exact hd)⟩
  rcases h1 with h1 | h1
  · exact .jobOr h1 rfl
  · exact absurd h1 (not_inTodos_of_quiet hq _)

/-- The same for AND (the repaired wiring): composite → AndSignals → operand. -/
theorem C04_operands_strongly_reachable {s : State} (h : sys.Reach s) (hq : Quiet s) (n : Nat) (hn : n < s.nAnd)
    (hal : (s.sigs (s.ands n).target).alive = true) (hgo : (s.sigs (s.ands n).target).go = false)
    (d : Nat) (hd : d ∈ (s.ands n).deps0) :
    Edge s (.sig (s.ands n).target) (.andO n) ∧ Edge s (.andO n) (.sig d) := by
  have hl := reach_invL h
  refine ⟨?_, .andDep (by rw [hl.and_intact hn hgo]; exact hd)⟩
  rcases hl.Ka n hn hal hgo with h1 | h1
  · exact .jobAnd h1 rfl
  · exact absurd h1 (not_inTodos_of_quiet hq _)

/-- non-vacuity: in the quiescent state after `c = a | b` has been built, c → OrSignal 0 → a and b -/
example : Edge (demoO2.getD init) (.sig 4) (.orO 0) ∧ Edge (demoO2.getD init) (.orO 0) (.sig 2)
    ∧ Edge (demoO2.getD init) (.orO 0) (.sig 3) := by
  refine ⟨.jobOr (j := .orCleanup 0) (by decide +kernel) rfl, .orDep (by decide +kernel), .orDep (by decide +kernel)⟩

end MoThreads.Composite
