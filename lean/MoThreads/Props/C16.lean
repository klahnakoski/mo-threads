/-
  C16 — ThreadedQueue: ordered, loss-free hand-off and terminating stop().
  Theorems about M7 (Model/TQWorker.lean, the model of the REPAIRED worker_bee), for every batch size,
  every timing of producers relative to the flush timers, and every finite failure pattern of the slow
  queue's extend() (a failed attempt delivers nothing).
-/
import MoThreads.Proofs.TQRank
namespace MoThreads.TQWorker
open MoThreads

/-- Loss-free, ordered, exactly-once hand-off: in every reachable state
  (batches accepted by the slow queue, flattened) ++ (buffer) ++ (item in hand) ++ (values still queued)
is exactly the sequence of values added, in the order added. -/
theorem C16_delivery_invariant {s : State} (h : sys.Reach s) :
    flat s.sink ++ s.buffer ++ s.pc.pend ++ vals s.q = s.added := (reach_inv h).conserved

/-- When the worker has finished, everything added before the stop marker was handed to the slow
queue, in order, each value once; what is left over is exactly what is still in the own queue
(values added behind the marker). -/
theorem C16_delivery {s : State} (h : sys.Reach s) (hd : s.pc = .done) : flat s.sink ++ vals s.q = s.added := by
  have i := (reach_inv h).at_pc hd
  simpa [WPC.pend, show s.buffer = [] from i.flushedEmpty rfl] using i.conserved

/-- Only a batch whose delivery raised is offered again: a failed extend() changes neither what the
slow queue has accepted nor the buffer, and the buffer is emptied only by a successful one. -/
theorem C16_failed_batch_is_kept {s s' : State} {b : List Nat} (hs : step s = some (s', .extend b false)) :
    s'.sink = s.sink ∧ s'.buffer = s.buffer ∧ b = s.buffer :=
  have ⟨h1, h2, h3⟩ := step_extend hs
  ⟨h2, h3, h1⟩

theorem C16_accepted_batch_is_the_buffer {s s' : State} {b : List Nat} (hs : step s = some (s', .extend b true)) :
    s'.sink = s.sink ++ [s.buffer] ∧ s'.buffer = [] ∧ b = s.buffer :=
  have ⟨h1, h2, h3⟩ := step_extend hs
  ⟨h2, h3, h1⟩

/-- Exactly one stop marker reaches the slow queue, and only as the worker's very last act. -/
theorem C16_one_marker {s : State} (h : sys.Reach s) : s.markers = if s.pc = .done then 1 else 0 := (reach_inv h).oneMarker

/-- Without an external abort (please_stop triggered from outside, e.g. `with` leaving on an exception)
the worker never dies on a failing flush: the last flush before the marker is retried, not abandoned. -/
theorem C16_no_crash_without_abort {s : State} (h : sys.Reach s) (hx : s.extStop = false) : s.pc ≠ .crashed := by
  intro hc
  have ha := (reach_inv h).abortedExt hx
  rw [hc] at ha; cases ha

/-- stop() terminates (L1): once the stop marker has been appended, the worker cannot come to rest
anywhere but at its end — whatever the failure pattern, including a failure on the final flush
(the marker is put back and the flush retried). -/
theorem C16_stop_terminates {s : State} (h : sys.Reach s) (hr : s.stopReq = true) (hq : step s = none) :
    s.pc = .done ∨ s.pc = .crashed := by
  rcases step_none hq with hd | hc | ⟨hqq, hm, hl⟩
  · exact .inl hd
  · exact .inr hc
  · -- blocked in a pop on an empty queue: but the marker is queued, held or already handled
    rcases (reach_inv h).noLostStop hr with h1 | h1 | h1
    · rw [hqq] at h1; cases h1
    · rw [hm] at h1; cases h1
    · rw [hl] at h1; cases h1

/-- and with no external abort it ends at `done`, i.e. stop() (which joins the worker) returns normally. -/
theorem C16_stop_returns {s : State} (h : sys.Reach s) (hr : s.stopReq = true) (hx : s.extStop = false)
    (hq : step s = none) : s.pc = .done := by
  rcases C16_stop_terminates h hr hq with h1 | h1
  · exact h1
  · exact absurd h1 (C16_no_crash_without_abort h hx)

/-- Non-vacuity: batch 2, values 1,2,3, the slow queue fails on the 2nd attempt — which is the final
flush while handling the stop marker; the marker is re-queued, the flush retried, one marker sent. -/
def settle : Nat → State → State
  | 0, s => s
  | fuel + 1, s => match step s with
    | some (s', _) => settle fuel s'
    | none => s

def demo16 : State :=
  let s := init 2 [false, true]
  let s := add (add (add s (.val 1)) (.val 2)) (.val 3)
  let s := add s .marker
  settle 200 s

example : (demo16.pc, demo16.sink, demo16.markers, demo16.q, demo16.added) = (.done, [[1, 2], [3]], 1, [], [1, 2, 3]) := by
  decide

theorem run_keeps_requests {s s' : State} {tr : List (Nat × Label)} (r : sys.Run s tr s') :
    s'.stopReq = s.stopReq ∧ s'.extStop = s.extStop :=
  r.preserves sys (P := fun x => x.stopReq = s.stopReq ∧ x.extStop = s.extStop)
    (fun _ _ _ _ h hs => have hk := step_frame (sys_step hs); ⟨hk.1.trans h.1, hk.2.1.trans h.2⟩) ⟨rfl, rfl⟩

/-- L2: without new values and without timers firing, the worker takes at most `rank s` steps — every turn of its
loop consumes a queued item, an entry of the (finite) failure pattern of the slow queue, or the fired state of the
current flush timer (`Fresh`: timers that do not exist yet have not fired). -/
theorem C16_worker_runs_terminate {s s' : State} {tr : List (Nat × Label)} (hf : Fresh s) (r : sys.Run s tr s') :
    tr.length ≤ rank s := by
  have := run_length_le_rank hf r; omega

/-- … and once the stop marker has been queued (no external abort), the state in which such a run comes to rest is
the worker's normal end: stop(), which joins the worker, returns — for every failure pattern. -/
theorem C16_stop_returns_in_bounded_steps {s s' : State} {tr : List (Nat × Label)} (h : sys.Reach s) (hf : Fresh s)
    (hr : s.stopReq = true) (hx : s.extStop = false) (r : sys.Run s tr s') :
    tr.length ≤ rank s ∧ (sys.Quiescent s' → s'.pc = .done) := by
  refine ⟨C16_worker_runs_terminate hf r, fun hq => ?_⟩
  have hk := run_keeps_requests r
  exact C16_stop_returns (h.run sys r) (hk.1.trans hr) (hk.2.trans hx) (hq 0)

/-- non-vacuity: the state of `demo16` before the worker runs (three values and the marker queued, failure on the
second attempt) is reachable and fresh; its rank is 20·4 + 30·2 + 40 -/
def demo16start : State := add (add (add (add (init 2 [false, true]) (.val 1)) (.val 2)) (.val 3)) .marker

example : sys.Reach demo16start ∧ Fresh demo16start ∧ demo16start.stopReq = true ∧ demo16start.extStop = false
    ∧ rank demo16start = 180 := by
  refine ⟨?_, ?_, by decide, by decide, by decide⟩
  · exact Sys.Reach.env (Sys.Reach.env (Sys.Reach.env (Sys.Reach.env (Sys.Reach.init ⟨2, [false, true], rfl⟩)
      (Or.inl ⟨_, rfl⟩)) (Or.inl ⟨_, rfl⟩)) (Or.inl ⟨_, rfl⟩)) (Or.inl ⟨_, rfl⟩)
  · intro k _; rfl

end MoThreads.TQWorker
