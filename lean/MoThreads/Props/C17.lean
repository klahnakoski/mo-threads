/-
  C17 — Process: output lines and exit status are reported faithfully.
  Theorems about M8 (Model/ProcessIO.lean, the model of the REPAIRED readers and monitor), for every child
  script (any number of lines on either stream, in any order), every exit status below 256, every
  interleaving of the child, the two readers, the monitor and the caller of join(), and every timing of
  wait() time-outs, idle kills and stop() requests (the environment).

  Hypothesis carried by the line theorems: the reader of the stream was not abandoned by the monitor
  (`abandoned k = false`): processes.py gives a reader one second after the loop ended and then closes its
  queue ("THREAD LOST ON PIPE.readline()"); what is read after that is dropped by design.
-/
import MoThreads.Proofs.ProcRank
namespace MoThreads.ProcessIO
open MoThreads

/-- Every line exactly once and in order, queue closed: when `stopped` has been triggered, the queue of a
stream whose reader was not abandoned holds exactly the lines the child wrote to that stream, in order,
and is closed. -/
theorem C17_lines_exactly_once_in_order {s : State} (h : sys.Reach s) (hst : s.stopped = true) (k : Nat) (hk : k < 2)
    (ha : s.abandoned k = false) : s.q k = s.written k ∧ s.closed k = true := by
  have i := reach_inv h
  have r := i.stream k
  -- `stopped` is set after both joins, and the monitor gets past the join of a reader it keeps only when that reader is done
  have hm : s.mpc = .done := MPC.isDone_iff.mp (i.stopped ▸ hst)
  have hd := RPC.isDone_iff.mp ((r.joined (by rw [hm]; exact hk)).resolve_right (by rw [ha]; nofun))
  have hc : s.closed k = true := by rw [r.closed, ha, hd]; rfl
  exact ⟨(r.of_closed hc ha).1, hc⟩

/-- ... and for a child that ended on its own these are ALL the lines of its script for that stream. -/
theorem C17_all_lines_of_a_child_that_exits {s : State} (h : sys.Reach s) (hst : s.stopped = true) (k : Nat) (hk : k < 2)
    (ha : s.abandoned k = false) (st : Nat) (he : s.exited = some st) (hkill : s.killed = false) :
    s.q k = linesOf k s.script0 := by
  have hl := (reach_inv h).lines k
  rw [((reach_inv h).own_exit he hkill).2] at hl
  rw [(C17_lines_exactly_once_in_order h hst k hk ha).1]; simpa [linesOf] using hl

/-- The queue is closed only after the last line: once a (not abandoned) queue is closed it already holds
everything the child wrote, and the child has ended, so nothing can follow. -/
theorem C17_closed_after_last_line {s : State} (h : sys.Reach s) (k : Nat) (hc : s.closed k = true) (ha : s.abandoned k = false) :
    s.q k = s.written k ∧ s.exited.isSome = true :=
  ((reach_inv h).stream k).of_closed hc ha

/-- returncode is the child's exit status: what the monitor (or a late kill) reaped is what the child
ended with; for a child that was not killed that is the status of its own script. -/
theorem C17_returncode_is_exit_status {s : State} (h : sys.Reach s) (st : Nat) (hr : s.rc = some st) :
    s.exited = some st ∧ (s.killed = false → st = s.status) := by
  have he := (reach_inv h).rc st hr
  exact ⟨he, fun hk => ((reach_inv h).own_exit he hk).1⟩

/-- join() returns, normally or not, only after `stopped` and after the child has ended. -/
theorem C17_join_only_after_exit {s : State} (h : sys.Reach s)
    (hu : s.upc = .returned ∨ s.upc = .raisedFail ∨ s.upc = .raisedTimeout) : s.stopped = true ∧ s.exited.isSome = true := by
  have i := reach_inv h
  have hf := i.found
  rcases hu with hu | hu | hu <;> rw [hu] at hf <;> refine ⟨i.sawStopped (by rw [hu]; rfl), ?_⟩
  · rw [show s.exited = some 0 from hf]; rfl
  · obtain ⟨st, e, _⟩ := hf; rw [e]; rfl
  · exact hf.2

/-- join() returns normally only for a child that exited 0 on its own. -/
theorem C17_join_returns_only_for_exit_zero {s : State} (h : sys.Reach s) (hu : s.upc = .returned) :
    s.exited = some 0 ∧ s.killed = false ∧ s.status = 0 := by
  have i := reach_inv h
  have he : s.exited = some 0 := by have hf := i.found; rwa [hu] at hf
  rcases i.exit 0 he with ⟨_, h2⟩ | ⟨h1, h2, _⟩
  · cases h2
  · exact ⟨he, h1, h2.symm⟩

/-- join() raises exactly when the status is non-zero or the child had to be killed — never for a child
that exited 0 on its own — unless the program itself asked the process to stop (then a child that is
still running after the grace period is killed by join(), reported as TIMEOUT). -/
theorem C17_join_raises_iff {s : State} (h : sys.Reach s) (hus : s.userStop = false)
    (hu : s.upc = .returned ∨ s.upc = .raisedFail ∨ s.upc = .raisedTimeout) :
    (s.upc = .returned ↔ (s.status = 0 ∧ s.killed = false)) ∧ s.upc ≠ .raisedTimeout := by
  have i := reach_inv h
  have hf := i.found
  have hnt : s.upc ≠ .raisedTimeout := by
    intro ht; rw [ht] at hf; cases hf.1.symm.trans hus
  refine ⟨⟨fun hr => ?_, fun ⟨h0, hk⟩ => ?_⟩, hnt⟩
  · have hz := C17_join_returns_only_for_exit_zero h hr
    exact ⟨hz.2.2, hz.2.1⟩
  · rcases hu with hu | hu | hu
    · exact hu
    · rw [hu] at hf
      obtain ⟨st, e, hne⟩ := hf
      exact absurd ((i.own_exit e hk).1.trans h0) hne
    · exact absurd hu hnt

theorem stepChild_none {s : State} (h : stepChild s = none) : s.exited.isSome = true := by
  unfold stepChild at h
  repeat' split at h
  all_goals simp_all

theorem stepReader_none {s : State} {k : Nat} (he : s.exited.isSome = true) (h : stepReader s k = none) : s.rpc k = .done := by
  unfold stepReader at h
  repeat' split at h
  all_goals simp_all

theorem stepMonitor_none {s : State} (he : s.exited.isSome = true) (h0 : s.rpc 0 = .done) (h1 : s.rpc 1 = .done)
    (h : stepMonitor s = none) : s.mpc = .done := by
  unfold stepMonitor at h
  repeat' split at h
  all_goals simp_all

theorem stepUser_none {s : State} (hst : s.stopped = true) (h : stepUser s = none) :
    s.upc = .idle ∨ s.upc = .returned ∨ s.upc = .raisedFail ∨ s.upc = .raisedTimeout := by
  unfold stepUser at h
  cases hp : s.upc <;> simp_all
  split at h <;> simp_all

/-- No hang (L1): in a state where nobody can move — child, readers, monitor, caller — the caller of join()
is not waiting: the child has ended, both readers have finished, `stopped` is set and join() has returned
or raised. -/
theorem C17_join_does_not_hang {s : State} (h : sys.Reach s) (hq : sys.Quiescent s) :
    s.upc = .idle ∨ s.upc = .returned ∨ s.upc = .raisedFail ∨ s.upc = .raisedTimeout := by
  have he := stepChild_none (hq 0)
  have hm := stepMonitor_none he (stepReader_none he (hq 1)) (stepReader_none he (hq 2)) (hq 3)
  exact stepUser_none (by rw [(reach_inv h).stopped, hm]; rfl) (hq 4)

/-- L2: join() returns.  For a child that ends by itself (the model's child follows a finite script), with no timeout, no
kill and no abandoned reader, every schedule of the child, the two readers, the monitor and the caller takes at most
`rank s` steps, and where nobody can move join() has returned or raised (and by the theorems above: returned exactly for
exit status 0, with every line delivered). -/
theorem C17_join_returns {s s' : State} {tr : List (Nat × Label)} (h : sys.Reach s) (r : sys.Run s tr s') :
    tr.length ≤ rank s ∧
    (sys.Quiescent s' → s'.upc = .idle ∨ s'.upc = .returned ∨ s'.upc = .raisedFail ∨ s'.upc = .raisedTimeout) := by
  have := run_length_le_rank r
  exact ⟨by omega, fun hq => C17_join_does_not_hang (h.run sys r) hq⟩

/-! ### the hypotheses are satisfiable -/

def runSched (s : State) : List Nat → Option State
  | [] => some s
  | t :: ts => match step s t with
    | some (s', _) => runSched s' ts
    | none => none

theorem reach_runSched {s s' : State} (ts : List Nat) (h : sys.Reach s) (hr : runSched s ts = some s') : sys.Reach s' := by
  induction ts generalizing s with
  | nil => cases hr; exact h
  | cons t ts ih =>
    unfold runSched at hr
    split at hr
    next hst => exact ih (h.step hst) hr
    · cases hr

theorem some_getD_of_isSome {α : Type} (o : Option α) (d : α) (h : o.isSome = true) : o = some (o.getD d) := by
  cases o with
  | none => cases h
  | some _ => rfl

/-- a child writing 7 and 9 to stdout and 8 to stderr, exit status 3; join() is called at once -/
def demoInit : State := init [(0, 7), (1, 8), (0, 9)] 3
def demo1 : Option State := callJoin demoInit
def demoSched : List Nat :=
  [0, 0, 0, 0, 1, 1, 1, 1, 1, 1, 1, 1, 2, 2, 2, 2, 2, 2, 3, 3, 3, 3, 3, 3, 4, 4, 4]
def demo2 : Option State := runSched (demo1.getD demoInit) demoSched

example : ∃ s, sys.Reach s ∧ s.stopped = true ∧ s.abandoned 0 = false ∧ s.abandoned 1 = false ∧ s.q 0 = [7, 9] ∧ s.q 1 = [8]
    ∧ s.upc = .raisedFail ∧ s.rc = some 3 ∧ s.userStop = false ∧ s.killed = false := by
  have h1 := some_getD_of_isSome demo1 demoInit (by decide +kernel)
  have h2 := some_getD_of_isSome demo2 demoInit (by decide +kernel)
  refine ⟨demo2.getD demoInit, ?_, by decide +kernel⟩
  have r0 : sys.Reach demoInit := Sys.Reach.init ⟨_, 3, by decide, rfl⟩
  have r1 : sys.Reach (demo1.getD demoInit) := Sys.Reach.env r0 (Or.inr (Or.inr (Or.inr (Or.inr (Or.inl h1)))))
  exact reach_runSched demoSched r1 h2

example : rank (demo1.getD demoInit) = 30 := by decide +kernel

end MoThreads.ProcessIO
