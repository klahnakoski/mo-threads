/-
  C09 — Queue: close drains then stops; blocked consumers are released.  Theorems about M4.
-/
import MoThreads.Proofs.QueueRank
import MoThreads.Proofs.QueueRank
namespace MoThreads.Queue
open MoThreads

/-- `closed` is permanent. -/
theorem C09_closed_is_permanent {s s' : State} {t : Nat} {l : Label} (hs : step s t = some (s', l))
    (hc : s.closed = true) : s'.closed = true := (step_frame hs).2.2.1 hc

/-- After close(), a pop still delivers queued values (head first) … -/
theorem C09_drains {s s' : State} {t : Nat} {tl : Option Nat} {l : Label} (hp : s.pc t = .pLen tl)
    (hne : s.dq ≠ []) (hs : step s t = some (s', l)) : s'.pc t = .pPop := by
  step_at hp hs; cases hs
  simp only [State.setPc, if_pos, List.length_eq_zero_iff, hne, if_false]

/-- … and once it is empty every pop() gets the stop marker instead of blocking. -/
theorem C09_then_stops {s s' : State} {t : Nat} {tl : Option Nat} {l : Label} (hp : s.pc t = .pC tl)
    (hc : s.closed = true) (hs : step s t = some (s', l)) : s'.pc t = .sRel .stop := by
  step_at hp hs; cases hs; simp [State.setPc, hc]

/-- A consumer that was already parked (or had decided to park before close() ran) is enabled as
soon as the queue is closed and the mutex is free, and its wait() then ends with the stop marker. -/
theorem C09_parked_consumer_enabled {s : State} (t : Nat) (tl : Option Nat) (hp : s.pc t = .pParked tl)
    (hc : s.closed = true) (hm : s.mutex = none) : (step s t).isSome = true := by
  unfold step; rw [hp]; simp [hc, hm]

theorem C09_timed_out_wait_stops {s s' : State} {t : Nat} {tl : Option Nat} {l : Label} (hp : s.pc t = .pT tl)
    (hc : s.closed = true) (hs : step s t = some (s', l)) : s'.pc t = .sRel .stop := by
  step_at hp hs; cases hs; simp [State.setPc, hc]

/-- a thread holding the mutex is never blocked -/
theorem C09_holder_enabled {s : State} (h : sys.Reach s) (t : Nat) (hm : s.mutex = some t) :
    (step s t).isSome = true := by
  have i := reach_inv h
  have hh := (i.excl t).mpr hm
  cases hp : s.pc t <;> simp only [step, hp, Option.isSome_some]
  case sAct a _ => rcases a with _ | _ | _ | _ <;> simp only [Option.isSome_some]; split <;> rfl
  case pPop | oPop => split; exact absurd ‹_› (i.ok hp rfl); rfl
  -- the pcs that remain are outside the lock
  all_goals cases hp ▸ hh

/-- A stop marker inside an extend() batch (value 0 in the model) closes the queue at its place in the batch — it is not
enqueued as a value — and the rest of the batch follows. -/
theorem C09_marker_in_batch_closes {s s' : State} {t : Nat} {vs : List Nat} {b : Bool} {l : Label}
    (hp : s.pc t = .sAct (.extend (0 :: vs)) b) (hs : step s t = some (s', l)) :
    s'.closed = true ∧ s'.dq = s.dq ∧ l = .close ∧ s'.pc t = .sAct (.extend vs) false := by
  step_at hp hs; cases hs; exact ⟨rfl, rfl, rfl, if_pos rfl⟩

/-- L1: in a quiescent reachable state of a closed queue no consumer is parked. -/
theorem C09_blocked_consumers_released {s : State} (h : sys.Reach s) (hq : sys.Quiescent s)
    (hc : s.closed = true) (t : Nat) (tl : Option Nat) : s.pc t ≠ .pParked tl := by
  intro hp
  have hm : s.mutex = none := by
    cases hmm : s.mutex with
    | none => rfl
    | some u =>
      have := C09_holder_enabled h u hmm
      have hq' : step s u = none := hq u
      rw [hq'] at this; cases this
  have := C09_parked_consumer_enabled t tl hp hc hm
  have hq' : step s t = none := hq t
  rw [hq'] at this; cases this

/-- Non-forced add()/push()/extend() on a closed queue raise and leave the contents unchanged. -/
theorem C09_reject_after_close {s s' : State} {t : Nat} {a : Act} {l : Label} (hp : s.pc t = .sPost a)
    (hc : s.closed = true) (ha : s.allow = false) (hs : step s t = some (s', l)) :
    s'.pc t = .sRel .closedErr ∧ s'.dq = s.dq := by
  step_at hp hs; cases hs; simp [State.setPc, hc, ha]

/-- … and the space test of a closed queue goes straight to that check (it does not block). -/
theorem C09_closed_skips_wait {s s' : State} {t : Nat} {a : Act} {tl : Option Nat} {l : Label} (hp : s.pc t = .sC a tl)
    (hc : s.closed = true) (hs : step s t = some (s', l)) : s'.pc t = .sPost a := by
  step_at hp hs; cases hs; simp [State.setPc, hc]

/-- Non-vacuity: consumer parks on the empty queue, close() comes from outside, consumer wakes and returns STOP. -/
def demo9 : Option State := do
  let run (s : State) (ts : List Nat) : Option State := ts.foldlM (fun s t => (step s t).map (·.1)) s
  let s ← call (init 4 false true []) 0 (.pop none)
  let s ← run s [0, 0, 0, 0, 0]
  let s := envClose s
  run s [0, 0, 0, 0]

example : (demo9.map fun s => (s.pc 0, s.mutex)) = some (.idle .stop, none) := by decide

/-- L2: without new calls and without environment events (signals from the Lock, timers, close), the threads inside
Queue methods take at most `rank N s` steps, under any scheduler: every operation is a bounded number of own steps plus
its turns around the capacity / empty loop, and every turn consumes what woke the thread — its `signalled` flag (reset
when wait() returns), the stall timer of the wait (a fresh one every turn), or it ends the call (the caller's till makes
the next capacity test raise; closed / till make the pop return).  In particular a blocked thread never spins. -/
theorem C07_operations_terminate {N : Nat} {s s' : State} {tr : List (Nat × Label)} (h : sys.Reach s) (hb : Below N s)
    (r : sys.Run s tr s') : tr.length ≤ rank N s :=
  Nat.le_of_add_right_le (run_length_le_rank (reach_inv h) hb r)

theorem run_closed {s s' : State} {tr : List (Nat × Label)} (r : sys.Run s tr s') (hc : s.closed = true) : s'.closed = true :=
  r.preserves sys (fun _ _ _ _ hc hs => C09_closed_is_permanent hs hc) hc

/-- … and once the queue is closed such a run ends with no consumer parked: every pending pop() has returned. -/
theorem C09_pending_pops_return {N : Nat} {s s' : State} {tr : List (Nat × Label)} (h : sys.Reach s) (hb : Below N s)
    (hc : s.closed = true) (r : sys.Run s tr s') :
    tr.length ≤ rank N s ∧ (sys.Quiescent s' → ∀ t tl, s'.pc t ≠ .pParked tl) :=
  ⟨C07_operations_terminate h hb r, fun hq t tl => C09_blocked_consumers_released (h.run sys r) hq (run_closed r hc) t tl⟩

end MoThreads.Queue
