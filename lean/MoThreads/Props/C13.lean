/-
  C13 — Till: never early, and at most one polling interval late.
  Theorems about M6 (Model/Till.lean): every reachable state, any number of creators, any multiset of
  deadlines, any creation order, any interleaving of creators with the daemon's scan/sleep cycle —
  including the unlocked read-modify-write of `next_ping` racing with a creation — for every INTERVAL > 0.
  Clock discipline = "otherwise idle system": steps cost no time, the clock moves only while the daemon sleeps.
-/
import MoThreads.Proofs.TillMain
namespace MoThreads.Till
open MoThreads

/-- Never early: in no reachable state has the normal polling loop fired a timer before its deadline
(as read from the clock the daemon uses). -/
theorem C13_never_early {s : State} (h : sys.Reach s) : s.early = false := (reach_inv h).neverEarly

/-- … because every timer the loop is about to fire is due. -/
theorem C13_fires_only_due {s : State} (h : sys.Reach s) (x : Timer) (rest : List Timer)
    (hp : s.dpc = .d9 (x :: rest)) : s.deadline x.2 ≤ s.now := by
  have i := (reach_inv h).at hp
  exact (i.listedRegd x (.inr (.inr (.head _)))).1 ▸ i.transitDue rfl x (.head _)

/-- Consecutive scans are at most one interval apart, and the clock never runs more than one
interval ahead of the last scan while the daemon lives. -/
theorem C13_scan_spacing {s : State} (h : sys.Reach s) :
    s.lastScan ≤ s.prevScan + s.I ∧ (s.dpc ≠ .done → s.now ≤ s.lastScan + s.I) :=
  ⟨(reach_inv h).scanSpacing.2, fun hd => (reach_inv h).scanRecent (DPC.ended_false hd)⟩

/-- At most one polling interval late: while the daemon runs (it has not begun its shutdown drain),
a registered Till that has not fired yet implies the clock is still within
`max(deadline, registration time) + INTERVAL`.  Contrapositive: once the clock exceeds that bound
the Till is true — for every number of timers, creation order, creating thread and interleaving. -/
theorem C13_at_most_one_interval_late {s : State} (h : sys.Reach s) (hrun : s.dpc.final = false)
    (id : Nat) (hr : s.regd id = true) (hf : s.fired id = false) :
    s.now ≤ maxI (s.deadline id) (s.regAt id) + s.I := by
  have i := reach_inv h
  have hA := i.scanRecent (DPC.ended_false fun hd => by rw [hd] at hrun; cases hrun)
  have hS := i.scanSpacing
  have := maxI_ge (s.deadline id) (s.regAt id)
  -- the timer is on one of the daemon's lists, and each list bounds its deadline or its registration time from below
  rcases i.unfiredListed id hr hf with h1 | h1 | h1
  · have := i.newSinceScan _ h1; simp only at this; omega
  · have hC := i.sortedLater _ h1
    split at hC
    · have := i.lastScanNow (DPC.midScan_scanning ‹_›); omega
    · omega
  · cases hsc : s.dpc.scanning
    · exact nomatch DPC.transit_nil hsc hrun ▸ h1
    · have hT := i.transitAfterPrev hsc _ h1
      have := i.lastScanNow hsc
      simp only at hT
      omega

/-- A Till with non-positive `seconds` is the always-true signal (no timer is created). -/
theorem C13_nonpositive {s s' : State} {t : Nat} {secs : Int} {g0 : Bool} {l : Label} (ht : t ≠ 0)
    (hp : s.cpc t = .c0 secs g0) (hs : secs ≤ 0) (hst : step s t = some (s', l)) :
    s'.cpc t = .idle ∧ s'.nextId = s.nextId := by
  simp only [step, ht, if_false, stepC, hp] at hst; cases hst
  simp [State.setC, hs]

/-- `Till(till=<absolute time>)` has no such shortcut: while timers are enabled a Till object is always created and
registered, even when the deadline has already passed (it is then due at once: `C13_at_most_one_interval_late` bounds its
firing by one interval after its registration). -/
theorem C13_absolute_deadline_is_registered {s s' : State} {t : Nat} {secs : Int} {g0 : Bool} {l : Label} (ht : t ≠ 0)
    (hp : s.cpc t = .c0a secs g0) (hst : step s t = some (s', l)) :
    s'.cpc t = (if g0 && s.started then .c1 secs else .idle) := by
  simp only [step, ht, if_false, stepC, hp] at hst; cases hst
  cases h : (g0 && s.started) <;> simp [State.setC]

/-- run thread `t` until it cannot move (or the fuel runs out) -/
def settle : Nat → State → Nat → State
  | 0, s, _ => s
  | fuel + 1, s, t => match step s t with
    | some (s', _) => settle fuel s' t
    | none => s

/-- Non-vacuity: I = 128; creator t1 makes Till(seconds=200) at clock 0; the daemon scans at 0, sleeps
to 128, scans, sleeps to 200, scans and fires the Till exactly at its deadline, never early. -/
def demo13 : Option State := do
  let s := settle 3 (init 128) 0                       -- enable, loop test, read clock
  let s ← callTill s 1 200
  let s := settle 20 s 1                               -- create + register
  let s := settle 40 s 0                               -- scan at 0, then sleep
  let s := tick s 128
  let s := settle 40 s 0
  let s := tick s 72
  pure (settle 40 s 0)

example : (demo13.map fun s => (s.now, s.fired 0, s.firedAt 0, s.deadline 0, s.early)) = some (200, true, 200, 200, false) := by
  decide

end MoThreads.Till
