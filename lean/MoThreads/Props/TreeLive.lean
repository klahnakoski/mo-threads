/-
  C10 / C11 / C12 — L2 for the thread tree (M5): with no new API calls every schedule, fair or not, runs out of steps
  (an explicit rank: a thread id is worth 2^(N-id), the children of a thread weigh less than the thread), and where nobody
  can move, whoever has not finished is waiting for a thread whose target is still running (or for a timeout).
-/
import MoThreads.Proofs.TreeLive
namespace MoThreads.ThreadTree
open MoThreads

/-- L2 (termination): from any reachable state, without new API calls, at most `rank s.nextId s` steps are taken,
whatever the scheduler does. -/
theorem C10_runs_terminate {s s' : State} {tr : List (Nat × Label)} (h : sys.Reach s) (r : sys.Run s tr s') :
    tr.length ≤ rank s.nextId s := by
  have := run_length_le_rank (rankOK_of_reach h) r; omega

/-- **`stopped` does become true.**  Take any run that cannot be extended.  A thread whose target has returned or raised
has triggered `stopped` — unless the target of one of its registered descendants (any number of generations) is still
running: nothing else can hold the shutdown block up, not a child that failed, not one that was joined or released
early, not one whose registration was still under way. -/
theorem C10_stopped_once_all_done {s s' : State} {tr : List (Nat × Label)} (h : sys.Reach s) (r : sys.Run s tr s')
    (hq : sys.Quiescent s') (t : Nat) (hpost : (s'.phase t).post = true)
    (hall : ∀ u, Desc s' t u → s'.phase u ≠ .running) : s'.stopped t = true :=
  quiescent_stopped (h.run sys r) hq _ t (Nat.le_refl _) hpost hall

/-- stop() returns: it never blocks (C11_stop_never_blocks), every run is finite, so in a run that cannot be extended
the call has returned; C11_stop_returned says what holds then. -/
theorem C11_stop_returns {s s' : State} {tr : List (Nat × Label)} (h : sys.Reach s) (t : Nat) (w : List SAct)
    (hph : s.phase t = .running) (hc : s.call t = .stopping w) (r : sys.Run s tr s') :
    tr.length ≤ rank s.nextId s ∧ (sys.Quiescent s' → s'.call t = .idle .done) := by
  refine ⟨C10_runs_terminate h r, fun hq => ?_⟩
  obtain ⟨hp', hc'⟩ := inStop_run (reach_inv h) ⟨hph, Or.inl ⟨w, hc⟩⟩ r
  rcases hc' with ⟨w', hw'⟩ | hd
  · exfalso
    have hst : step s' t = none := hq t
    unfold step at hst; rw [hp'] at hst; simp only [hw'] at hst
    cases w' with
    | nil => cases hst
    | cons a rest => unfold stepStop at hst; cases a <;> cases hst
  · exact hd

/-- join() / join_all_threads() block on one thing only: a thread that has not stopped, while the timeout (if any) has
not fired.  With termination: they return within a bounded number of steps once that thread stops or the timeout fires. -/
theorem C12_join_blocks_only_on_unstopped {s : State} (t : Nat) (top : List Nat) (work : List JAct) (tl : Option Nat)
    (raised : List Nat) (all : Bool) (hph : s.phase t = .running) (hc : s.call t = .joining top work tl raised all)
    (hq : step s t = none) : ∃ v rest, work = .wait v :: rest ∧ s.stopped v = false ∧ tillOn s tl = false := by
  unfold step at hq; rw [hph] at hq; simp only [hc] at hq
  cases work with
  | nil => cases hq
  | cons a rest =>
    obtain ⟨v, rfl, hsv, htl⟩ := stepJoin_none hq
    exact ⟨v, rest, rfl, hsv, htl⟩

/-! non-vacuity: main spawns t1, t1 spawns t2, t1's target returns (its shutdown block blocks joining t2), t2 fails,
everything runs to the end: a reachable state in which nobody can move, t1's target has ended, and `stopped` is true -/

def callD (s : State) (t : Nat) (op : Op) : State := (call s t op).getD s

theorem reach_callD {s : State} (h : sys.Reach s) (t : Nat) (op : Op) : sys.Reach (callD s t op) :=
  h.envD sys fun _ hs => Or.inl ⟨t, op, hs⟩

theorem reach_settle {s : State} (h : sys.Reach s) (t : Nat) : ∀ fuel, sys.Reach (settle fuel s t) := by
  intro fuel
  induction fuel generalizing s with
  | zero => exact h
  | succ n ih =>
    unfold settle
    cases hs : step s t with
    | none => exact h
    | some p => exact ih (h.step (t := t) (l := p.2) hs)

def demoMid : State :=
  settle 40 (callD (settle 10 (settle 10 (callD (settle 10 (settle 10 (callD init 0 .spawn) 0) 1) 1 .spawn) 1) 2) 1 (.finish (.ok 5))) 1

def demoLive : State := settle 40 (settle 40 (callD demoMid 2 (.finish .fail)) 2) 1

theorem demoMid_reach : sys.Reach demoMid := by
  unfold demoMid
  repeat (first | apply reach_settle | apply reach_callD)
  exact Sys.Reach.init rfl

theorem demoLive_reach : sys.Reach demoLive := by
  unfold demoLive
  repeat (first | exact demoMid_reach | apply reach_settle | apply reach_callD)

/-- in the middle: t1's shutdown block is blocked on t2, whose target is still running; the rank bounds what is left -/
example : demoMid.stopped 1 = false ∧ demoMid.phase 2 = .running ∧ step demoMid 1 = none := by decide
example : rank 3 demoMid = 8 := by decide

theorem demoLive_quiescent : sys.Quiescent demoLive := by
  intro t
  by_cases ht : t < 3
  · have : t = 0 ∨ t = 1 ∨ t = 2 := by omega
    rcases this with rfl | rfl | rfl <;> decide
  · have : demoLive.phase t = .absent := (reach_inv demoLive_reach).fresh t (by
      have : demoLive.nextId = 3 := by decide
      omega)
    show step demoLive t = none
    unfold step; rw [this]

example : demoLive.stopped 1 = true :=
  C10_stopped_once_all_done demoLive_reach Sys.Run.nil demoLive_quiescent 1 (by decide) (by
    intro u hu
    have := desc_lt (reach_tree demoLive_reach) hu
    have h3 : demoLive.nextId = 3 := by decide
    have : u = 2 := by omega
    subst this; decide)

end MoThreads.ThreadTree
