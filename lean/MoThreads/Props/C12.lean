/-
  C12 — Threads: join() reports the target's outcome faithfully.  Theorems about M5.
  Values are naturals standing for arbitrary return values; the failure outcome stands for any
  exception derived from Exception (the cause chain itself is compared on real runs, see harness).
-/
import MoThreads.Props.C10
namespace MoThreads.ThreadTree
open MoThreads

/-- The outcome is stored before `stopped` is triggered … -/
theorem C12_outcome_before_stopped {s : State} (h : sys.Reach s) (t : Nat) (hs : s.stopped t = true) :
    s.outcome t ≠ none :=
  have i := reach_inv h
  i.outP t (Phase.isStopped_done ((i.stP t).mp hs)).2

/-- … and never changes afterwards (no step writes `outcome`; only the target's own end does, once). -/
theorem C12_outcome_stable_step {s s' : State} {t u : Nat} {l : Label} (hs : step s t = some (s', l)) :
    s'.outcome u = s.outcome u := congrFun (frame_step hs).2.1 u

theorem C12_outcome_set_once {s s' : State} {t : Nat} {o : Outcome} (hc : call s t (.finish o) = some s') :
    s.phase t = .running ∧ s'.outcome t = some o := by
  unfold call at hc
  split at hc
  · rename_i r hph hcl
    simp only at hc
    split at hc
    · cases hc
    · cases hc; exact ⟨hph, by simp [upd]⟩
  · cases hc

theorem joinRet_single (s : State) (u : Nat) (raised : List Nat) : joinRet s [u] raised false = joinRet1 s u raised := rfl

/-- join(u, till) reports a timeout only if its till fired and the thread has not stopped; any other
result (a value or a raised failure) means the thread HAS stopped. -/
theorem C12_join_result_means_stopped {s : State} (h : sys.Reach s) (t u : Nat) (tl : Option Nat) (raised : List Nat)
    (hc : s.call t = .joining [u] [] tl raised false) :
    (joinRet s [u] raised false = .timeout → tillOn s tl = true ∧ s.stopped u = false) ∧
    (joinRet s [u] raised false ≠ .timeout → s.stopped u = true) := by
  have hf := (reach_inv h).joined (t := t) (u := u) (by rw [hc]; rfl) (List.mem_singleton.mpr rfl)
  rw [joinRet_single]; unfold joinRet1
  cases hst : s.stopped u with
  | true =>
    refine ⟨fun hh => ?_, fun _ => rfl⟩
    split at hh
    · cases hh
    · split at hh <;> cases hh
  | false =>
    -- not stopped: the call gave up on `u` after its till fired, and reports the timeout
    obtain ⟨htl, hm⟩ := hf.resolve_left (by rw [hst]; nofun)
    simp [htl, hm]

/-- join(u) returning a value: the thread has stopped and the value is exactly what its target returned. -/
theorem C12_join_value {s : State} (h : sys.Reach s) (t u v : Nat) (tl : Option Nat) (raised : List Nat)
    (hc : s.call t = .joining [u] [] tl raised false) (hr : joinRet s [u] raised false = .value v) :
    s.stopped u = true ∧ s.outcome u = some (.ok v) := by
  refine ⟨(C12_join_result_means_stopped h t u tl raised hc).2 (by rw [hr]; nofun), ?_⟩
  rw [joinRet_single] at hr
  unfold joinRet1 at hr
  split at hr
  · split at hr <;> cases hr
  · split at hr
    · rename_i v' ho; cases hr; exact ho
    · cases hr

/-- A failed target is never reported as a normal return. -/
theorem C12_failure_is_raised {s : State} (u : Nat) (raised : List Nat) (hf : s.outcome u = some .fail) (v : Nat) :
    joinRet s [u] raised false ≠ .value v := by
  rw [joinRet_single]; unfold joinRet1
  split
  · split <;> simp
  · simp [hf]

/-- join_all_threads: when it returns, every listed thread has been waited for (no timeout without a
till), the results are in input order, and it raises iff some join raised. -/
theorem C12_join_all {s : State} (h : sys.Reach s) (t : Nat) (us : List Nat) (raised : List Nat)
    (hc : s.call t = .joining us [] none raised true) :
    (∀ u, u ∈ us → s.stopped u = true) ∧
    (joinRet s us raised true = .allRaised ↔ us.any raised.contains = true) ∧
    (us.any raised.contains = false →
      joinRet s us raised true = .values (us.map (resultOf s))) := by
  refine ⟨?_, ?_, ?_⟩
  · exact fun u hu => (reach_inv h).joined_none (t := t) (by rw [hc]; rfl) hu
  · simp only [joinRet, if_true]; split <;> simp_all
  · intro hn; simp only [joinRet, if_true, hn, Bool.false_eq_true, if_false]

/-- The sixty seconds of an unjoined thread: when they run out the thread leaves `linger` — a failure is only logged; a thread
whose parent is a Thread takes itself out of that parent's list — and in every case its outcome stays where it was: a join()
that comes later returns or raises exactly as an early one would (C12_join_value, C12_failure_is_raised hold in every
reachable state, before and after). -/
theorem C12_expiry_keeps_the_outcome {s s' : State} {t : Nat} {l : Label} (hph : s.phase t = .linger) (hj : s.joiner t = false)
    (hx : s.lingerFired t = true) (hs : step s t = some (s', l)) :
    s'.phase t = .dead ∧ s'.outcome = s.outcome ∧ s'.stopped = s.stopped ∧
    (l = .tau ∨ l = .unreg t (s.parent t) ((s.children (s.parent t)).contains t)) := by
  unfold step at hs
  rw [hph] at hs
  simp only [hj, hx, Bool.false_eq_true, if_false, if_true] at hs
  split at hs
  · cases hs; exact ⟨by simp [upd], rfl, rfl, Or.inl rfl⟩
  · cases hs; exact ⟨by simp [upd], rfl, rfl, Or.inr rfl⟩

/-- non-vacuity: main starts t1, t1 starts t2 and lives on; t2 returns 5 and nobody joins it; sixty seconds pass; t2 takes itself
out of t1's list; THEN t1 joins t2 and gets 5 -/
def demoLate : Option (State × State) := do
  let s ← call init 0 .spawn
  let s := settle 10 s 0
  let s := settle 10 s 1
  let s ← call s 1 .spawn
  let s := settle 10 s 1
  let s := settle 10 s 2
  let s ← call s 2 (.finish (.ok 5))
  let s := settle 40 s 2                  -- t2's shutdown block; it lingers
  let s := expire s 2
  let s1 := settle 5 s 2                  -- the sixty seconds are over
  let s ← call s1 1 (.join 2 none)
  let s := settle 40 s 1
  pure (s1, s)

example : (demoLate.map fun q => (q.1.phase 2, q.1.children 1, q.1.everChild 1, q.2.call 1, q.2.outcome 2)) =
    some (.dead, [], [2], .idle (.value 5), some (.ok 5)) := by decide

end MoThreads.ThreadTree
