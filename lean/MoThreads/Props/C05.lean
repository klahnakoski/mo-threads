/-
  C05 — Lock: mutual exclusion, and wait() always returns holding the lock.
  Theorems about M3 (Model/Monitor.lean): every reachable state, any number of threads, any monitor
  program, timeouts fired by the environment at any point.
-/
import MoThreads.Proofs.MonitorMain
namespace MoThreads.Monitor
open MoThreads

/-- At most one thread is inside the `with lock:` region (parked threads are not inside). -/
theorem C05_mutual_exclusion {s : State} (h : sys.Reach s) (t u : Nat)
    (ht : (s.pc t).holdsM = true) (hu : (s.pc u).holdsM = true) : t = u := by
  have i := reach_inv h
  exact Option.some.inj (((i.mutex t).mp ht).symm.trans ((i.mutex u).mp hu))

/-- A thread suspended inside wait() does not count as inside, and does not own the mutex. -/
theorem C05_parked_is_outside {s : State} (h : sys.Reach s) (t w : Nat) (c : Cond) (tl : Option Nat)
    (hp : s.pc t = .parked w c tl) : s.mutex ≠ some t := by
  intro hm
  have := (reach_inv h).mutex t |>.mpr hm
  simp [hp, PC.holdsM] at this

/-- wait() returns holding the lock — whether it was signalled, timed out, or both. -/
theorem C05_wait_returns_locked {s : State} (h : sys.Reach s) (t : Nat) (b : Bool)
    (hp : s.pc t = .inside (.waited b)) : s.mutex = some t :=
  (reach_inv h).mutex t |>.mp (by simp [hp, PC.holdsM])

/-- Every path out of the parked state goes through the re-acquire step, which needs the mutex free
(nobody is ever released into an occupied critical section). -/
theorem C05_wake_reacquires {s s' : State} {t w : Nat} {c : Cond} {tl : Option Nat} {l : Label}
    (hp : s.pc t = .parked w c tl) (hs : step s t = some (s', l)) :
    s.mutex = none ∧ l = .acq ∧ s'.mutex = some t ∧ (s.fired w = true ∨ tillOn s tl = true) := by
  step_at hp hs
  split at hs
  · rename_i hc; cases hs
    simp only [Bool.and_eq_true, Bool.or_eq_true, decide_eq_true_eq] at hc
    exact ⟨hc.2, rfl, by simp [State.setPc], hc.1⟩
  · cases hs

/-- Leaving the block — normally or by an exception (`with` calls __exit__ either way) — releases. -/
theorem C05_exit_releases {s s' : State} {t : Nat} {l : Label} (hp : s.pc t = .x3)
    (hs : step s t = some (s', l)) : s'.mutex = none ∧ l = .rel ∧ s'.pc t = .idle .exited := by
  step_at hp hs; cases hs; simp [State.setPc]

/-- __exit__ never blocks: from the call of exit to the release every step is enabled. -/
theorem C05_exit_never_blocks {s : State} (h : sys.Reach s) (t : Nat)
    (hp : s.pc t = .x0 ∨ s.pc t = .x1 ∨ (∃ w, s.pc t = .x2 w) ∨ s.pc t = .x3) : (step s t).isSome = true := by
  unfold step
  rcases hp with hp | hp | ⟨w, hp⟩ | hp <;> rw [hp] <;> simp
  have := (reach_inv h).x1ne t hp
  cases hg : s.waiting.getLast? with
  | none => simp [List.getLast?_eq_none_iff] at hg; exact absurd hg this
  | some o => simp

/-- Non-vacuity: t0 enters and waits with till 7; t1 enters, sets σ0 := 1, exits (firing t0's waiter);
t0 wakes, re-acquires, returns True holding the lock. -/
def demo : Option State := do
  let s ← call init 0 .enter
  let (s, _) ← step s 0
  let s ← call s 0 (.wait (some (0, 1)) (some 7))
  let run (s : State) (ts : List Nat) : Option State := ts.foldlM (fun s t => (step s t).map (·.1)) s
  let s ← run s [0, 0, 0]
  let s ← call s 1 .enter
  let (s, _) ← step s 1
  let s ← call s 1 (.set 0 1)
  let s ← call s 1 .exit
  let s ← run s [1, 1, 1, 1]
  run s [0, 0]

example : (demo.map fun s => (s.mutex, s.pc 0, s.pc 1, s.waiting)) =
    some (some 0, .inside (.waited true), .idle .exited, []) := by decide

end MoThreads.Monitor
