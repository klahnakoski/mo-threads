/-
  C20 — Blocked threads stay blocked: no busy waiting among waiters.

  What is proved: a thread parked in Signal.wait() (M1), Lock.wait() (M3) or Queue.pop()/add() (M4) is
  DISABLED — it takes no step at all — until its own wake-up source fires; a single Lock waiter leaves the
  system quiescent.
  What is NOT true of the unchanged code, and is proved as a negation witness: two or more threads
  re-waiting on the same Lock wake each other forever although nothing else happens
  (`C20_violated_two_waiters_pingpong`).  That is the open known finding
  C20/two-or-more-waiters-on-one-lock; the full statement therefore stays a `_partial`.
-/
import MoThreads.Proofs.SignalCoreInv
import MoThreads.Proofs.MonitorMain
import MoThreads.Proofs.QueueInv
namespace MoThreads
open MoThreads

/-- Signal.wait(): while the flag is false a parked waiter cannot move (it is blocked on its own
stopper, which only the publishing go() releases). -/
theorem C20_signal_waiter_stays_parked {s : SignalCore.State} (h : SignalCore.sys.Reach s) (t x : Nat)
    (hp : s.pc t = .w7 x) (hg : s.go = false) : SignalCore.step s t = none := by
  have : s.unlocked x = false := by
    cases hu : s.unlocked x with
    | false => rfl
    | true => have := (SignalCore.reach_inv h).unl x hu; simp [hg] at this
  unfold SignalCore.step; rw [hp]; simp [this]

/-- Lock.wait(): a parked waiter that is neither signalled nor timed out cannot move. -/
theorem C20_lock_waiter_stays_parked {s : Monitor.State} (t w : Nat) (c : Monitor.Cond) (tl : Option Nat)
    (hp : s.pc t = .parked w c tl) (hf : s.fired w = false) (ht : Monitor.tillOn s tl = false) :
    Monitor.step s t = none := by
  unfold Monitor.step; rw [hp]; simp [hf, ht]

/-- Queue.pop(): a consumer parked on an empty queue does nothing while it is not signalled (no thread
left the lock), the queue is not closed and its till has not fired. -/
theorem C20_queue_consumer_stays_parked {s : Queue.State} (t : Nat) (tl : Option Nat) (hp : s.pc t = .pParked tl)
    (hsig : s.signalled t = false) (hcl : s.closed = false) (ht : Queue.tillOn s tl = false) : Queue.step s t = none := by
  unfold Queue.step; rw [hp]; simp [hsig, hcl, ht]

/-- Queue.add()/push()/extend() on a full queue: a parked producer does nothing while it is not signalled and
its wake-up timer has not fired — the caller's till on a silent queue, the stall timer of THIS wait otherwise
(`C08_stall_timer_is_fresh`: an old, already fired stall timer cannot resume it again). -/
theorem C20_queue_producer_stays_parked {s : Queue.State} (t : Nat) (a : Queue.Act) (tl : Option Nat)
    (hp : s.pc t = .sParked a tl) (hsig : s.signalled t = false)
    (ht : (if s.silent then Queue.tillOn s tl else s.stalled t) = false) : Queue.step s t = none := by
  unfold Queue.step; rw [hp]; simp [hsig, ht]

/-- A parked Lock waiter is never signalled spuriously: if its waiter signal is fired, some thread
performed a release (the waiter was popped by a lock holder) — `fired` implies it left the list. -/
theorem C20_lock_signal_only_by_release {s : Monitor.State} (h : Monitor.sys.Reach s) (w : Nat)
    (hf : s.fired w = true) : w ∉ s.waiting := (Monitor.reach_inv h).firedW w hf

/-- One waiter on a Lock, everybody else outside: the system is at rest (no polling, no self wake-up). -/
theorem C20_single_waiter_partial {s : Monitor.State} (t w : Nat) (c : Monitor.Cond) (tl : Option Nat)
    (hp : s.pc t = .parked w c tl) (hf : s.fired w = false) (ht : Monitor.tillOn s tl = false)
    (hothers : ∀ u, u ≠ t → ∃ r, s.pc u = .idle r) : Monitor.sys.Quiescent s := by
  intro u
  by_cases hu : u = t
  · subst hu; exact C20_lock_waiter_stays_parked u w c tl hp hf ht
  · obtain ⟨r, hr⟩ := hothers u hu
    show Monitor.step s u = none
    unfold Monitor.step; rw [hr]

namespace Monitor

/-- a consumer-style loop iteration: the thread re-tests its (false) condition and waits again -/
def rewait (s : State) (t : Nat) : Option State := call s t (.wait (some (0, 1)) none)

def runSteps (s : State) (ts : List Nat) : Option State := ts.foldlM (fun s t => (step s t).map (·.1)) s

/-- two idle consumers t0, t1 on one lock, condition `σ0 ≥ 1` never made true -/
def pingpongStart : Option State := do
  let s ← call init 0 .enter
  let s ← runSteps s [0]
  let s ← rewait s 0
  let s ← runSteps s [0, 0, 0]          -- t0 parked, waiting = [w0]
  let s ← call s 1 .enter
  let s ← runSteps s [1]
  let s ← rewait s 1
  runSteps s [1, 1, 1, 1, 1]            -- t1 popped+fired w0, listed w1, released, parked

/-- one round: the signalled thread `a` wakes, finds its condition false, waits again — which signals `b` -/
def pingpongRound (s : State) (a : Nat) : Option State := do
  let s ← runSteps s [a, a]             -- re-acquire, remove own waiter -> wait() returned True
  let s ← rewait s a                    -- condition still false: wait again
  runSteps s [a, a, a, a, a]            -- pops + fires the OTHER waiter, lists own, releases, parks

/-- both consumers parked, lock free, exactly one listed waiter and one signal in flight -/
def shapeOK (s : State) : Bool :=
  s.mutex.isNone && s.waiting.length == 1 && s.hot.length == 1 &&
  (match s.pc 0 with | .parked .. => true | _ => false) &&
  (match s.pc 1 with | .parked .. => true | _ => false)

def pingpongTrace : Option (Bool × Nat × Nat) := do
  let s0 ← pingpongStart
  let s1 ← pingpongRound s0 0
  let s2 ← pingpongRound s1 1
  let s3 ← pingpongRound s2 0
  let s4 ← pingpongRound s3 1
  let s5 ← pingpongRound s4 0
  let s6 ← pingpongRound s5 1
  pure ([s0, s1, s2, s3, s4, s5, s6].all shapeOK, s6.σ 0, s6.nextW)

/- NEGATION WITNESS (the unchanged lock.py): with NO state change, NO timeout and NO other thread,
the two parked consumers keep waking each other: every round is possible, performs 7 system steps
and returns to the same shape (both parked, one listed waiter, one signal in flight) — forever.
Six consecutive rounds are checked by evaluation; the state is the same up to fresh waiter ids
(8 waiter signals were created, σ never changed). -/
theorem C20_violated_two_waiters_pingpong : pingpongTrace = some (true, 0, 8) := by decide

end Monitor
end MoThreads
